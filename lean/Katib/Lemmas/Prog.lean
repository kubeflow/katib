import Katib.Model.Api
/-! Decision-tree predicates — `All` (every call on every path), path-wise counting — and their lifting through execution under
    any faults (`exec_preserves`, `exec_inv`). -/
namespace Katib.Ctl
open Katib

/-- `P` holds of every call on every path -/
def Prog.All (P : Call → Prop) : Prog → Prop
  | .done _ => True
  | .step c ok fail => P c ∧ ok.All P ∧ fail.All P

theorem Prog.all_iff (P : Call → Prop) (p : Prog) : p.All P ↔ ∀ c ∈ p.calls, P c := by
  induction p with
  | done r => simp [Prog.All, Prog.calls]
  | step c ok fail ih1 ih2 =>
    simp only [Prog.All, Prog.calls, List.mem_cons, List.mem_append, ih1, ih2]
    constructor
    · rintro ⟨h1, h2, h3⟩ x (rfl | h | h)
      · exact h1
      · exact h2 x h
      · exact h3 x h
    · intro h
      exact ⟨h _ (Or.inl rfl), fun x hx => h x (Or.inr (Or.inl hx)), fun x hx => h x (Or.inr (Or.inr hx))⟩

theorem Prog.All.mono {P Q : Call → Prop} (h : ∀ c, P c → Q c) : ∀ {p : Prog}, p.All P → p.All Q
  | .done _, _ => trivial
  | .step _ _ _, ⟨h1, h2, h3⟩ => ⟨h _ h1, Prog.All.mono h h2, Prog.All.mono h h3⟩

theorem Prog.All.and {P Q : Call → Prop} : ∀ {p : Prog}, p.All P → p.All Q → p.All (fun c => P c ∧ Q c)
  | .done _, _, _ => trivial
  | .step _ _ _, ⟨a1, a2, a3⟩, ⟨b1, b2, b3⟩ => ⟨⟨a1, b1⟩, Prog.All.and a2 b2, Prog.All.and a3 b3⟩

theorem Prog.all_of_forall {P : Call → Prop} (h : ∀ c, P c) : ∀ p : Prog, p.All P
  | .done _ => trivial
  | .step c ok fail => ⟨h c, Prog.all_of_forall h ok, Prog.all_of_forall h fail⟩

/-- the shape of the four finishes (`expFinish`, `sugFinish`, `sugErr`, `trialFinish`): one call, made unless `c` holds -/
theorem Prog.all_ite_step {P : Call → Prop} {c : Prop} [Decidable c] {call : Call} {r r1 r2 : Res} :
    (if c then Prog.done r else .step call (.done r1) (.done r2)).All P ↔ (¬ c → P call) := by
  split
  · rename_i h; simp [Prog.All, h]
  · rename_i h; simp [Prog.All, h]

/-- the largest number of calls satisfying `q` on one path -/
def Prog.maxOnPath (q : Call → Bool) : Prog → Nat
  | .done _ => 0
  | .step c ok fail => (if q c then 1 else 0) + max (ok.maxOnPath q) (fail.maxOnPath q)

theorem Prog.maxOnPath_zero_of_all {q : Call → Bool} : ∀ {p : Prog}, p.All (fun c => q c = false) → p.maxOnPath q = 0
  | .done _, _ => rfl
  | .step _ _ _, ⟨h1, h2, h3⟩ => by
    simp only [Prog.maxOnPath, h1, Bool.false_eq_true, if_false, Prog.maxOnPath_zero_of_all h2, Prog.maxOnPath_zero_of_all h3]
    rfl

/-- what the executor does is a path of the tree, whatever the faults: the store only changes through `applyCall` of calls of
    the tree, so an invariant kept by every successful call that satisfies `P` is kept when the whole tree satisfies `P` -/
theorem exec_preserves {I : World → Prop} {P : Call → Prop} (f : Faults)
    (hstep : ∀ w c w', I w → P c → applyCall w c = .ok w' → I w') :
    ∀ (p : Prog) (w : World) (i : Nat) (log : List String), p.All P → I w → I (exec f p w i log).w
  | .done _, _, _, _, _, hi => hi
  | .step c ok fail, w, i, log, ⟨hc, hok, hfail⟩, hi => by
    unfold exec
    split
    · exact exec_preserves f hstep fail w (i + 1) _ hfail hi
    · split
      · rename_i w' hw'
        exact exec_preserves f hstep ok w' (i + 1) _ hok (hstep w c w' hi hc hw')
      · exact exec_preserves f hstep fail w (i + 1) _ hfail hi

theorem exec_inv {I : World → Prop} (f : Faults) (hstep : ∀ {w c w'}, I w → applyCall w c = .ok w' → I w') (p : Prog) {w : World}
    (hI : I w) : I (exec f p w 0 []).w :=
  exec_preserves (P := fun _ => True) f (fun _ _ _ hI _ h => hstep hI h) p w 0 [] (Prog.all_of_forall (fun _ => trivial) p) hI

end Katib.Ctl
