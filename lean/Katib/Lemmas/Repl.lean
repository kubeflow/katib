import Katib.Model.Template
/-! Lemmas about Model/Template.lean: what `replaceAll` of a placeholder does at the head of a text (a `$`-free stretch, the
placeholder itself, another placeholder), that `lookupS` / `lookupLast` find a listed key, and the loop of `buildMap` one trial
parameter at a time. -/
namespace Katib.Tpl

theorem replaceAux_skip (pat rep a b : List Char) : replaceAux pat rep a.length (a ++ b) = replaceAux pat rep 0 b := by
  induction a with
  | nil => rfl
  | cons c a ih => exact ih

theorem replaceAux_dollarFree (p' rep : List Char) (a b : List Char) (h : DollarFree a) :
    replaceAux ('$' :: p') rep 0 (a ++ b) = a ++ replaceAux ('$' :: p') rep 0 b := by
  induction a with
  | nil => rfl
  | cons c a ih =>
    obtain ⟨hc, ha⟩ := List.ne_and_not_mem_of_not_mem_cons h
    have hnp : ('$' :: p').isPrefixOf (c :: (a ++ b)) = false := by
      simp [List.isPrefixOf, hc]
    simp [replaceAux, hnp, ih ha]

theorem name_eq_of_prefix (n m rest : List Char) (hn : '}' ∉ n) (hm : '}' ∉ m)
    (h : (n ++ ['}']) <+: (m ++ ['}'] ++ rest)) : n = m := by
  obtain ⟨t, ht⟩ := h
  induction n generalizing m with
  | nil =>
    cases m with
    | nil => rfl
    | cons d m => exact absurd (List.cons.inj ht).1 (List.ne_of_not_mem_cons hm)
  | cons c n ih =>
    cases m with
    | nil => exact absurd (List.cons.inj ht).1.symm (List.ne_of_not_mem_cons hn)
    | cons d m =>
      simp only [List.cons_append, List.cons.injEq] at ht
      rw [ht.1, ih m (List.not_mem_of_not_mem_cons hn) (List.not_mem_of_not_mem_cons hm) ht.2]

theorem name_eq_of_ph_prefix (n m rest : List Char) (hn : NameOk n) (hm : NameOk m) :
    (ph n).isPrefixOf (ph m ++ rest) = true → n = m := by
  intro h
  rw [List.isPrefixOf_iff_prefix] at h
  unfold ph at h
  have h' : (n ++ ['}']) <+: (m ++ ['}'] ++ rest) := by
    have : ('$' :: preTail) ++ (n ++ ['}']) <+: ('$' :: preTail) ++ (m ++ ['}'] ++ rest) := by
      simpa [List.append_assoc] using h
    exact (List.prefix_append_right_inj _).mp this
  exact name_eq_of_prefix n m rest hn.2 hm.2 h'

theorem tail_dollarFree (m : List Char) (hm : NameOk m) : DollarFree (preTail ++ m ++ ['}']) := by
  intro h
  simp only [List.mem_append, List.mem_singleton] at h
  rcases h with (h | h) | h
  · exact absurd h (by decide)
  · exact hm.1 h
  · exact absurd h (by decide)

theorem replaceAll_dollarFree (n v a b : List Char) (h : DollarFree a) :
    replaceAll (ph n) v (a ++ b) = a ++ replaceAll (ph n) v b :=
  replaceAux_dollarFree _ v a b h

theorem replaceAll_ph_self (n v b : List Char) : replaceAll (ph n) v (ph n ++ b) = v ++ replaceAll (ph n) v b := by
  have hp : (ph n).isPrefixOf ('$' :: (preTail ++ n ++ ['}'] ++ b)) = true :=
    List.isPrefixOf_iff_prefix.2 (List.prefix_append (ph n) b)
  show replaceAux (ph n) v 0 ('$' :: (preTail ++ n ++ ['}'] ++ b)) = _
  rw [replaceAux, if_pos hp, show (ph n).length - 1 = (preTail ++ n ++ ['}']).length from rfl, replaceAux_skip]
  rfl

theorem replaceAll_ph_other (n m v b : List Char) (hn : NameOk n) (hm : NameOk m) (hmn : m ≠ n) :
    replaceAll (ph n) v (ph m ++ b) = ph m ++ replaceAll (ph n) v b := by
  have hnp : ¬ (ph n).isPrefixOf ('$' :: (preTail ++ m ++ ['}'] ++ b)) = true :=
    fun hb => hmn (name_eq_of_ph_prefix n m b hn hm hb).symm
  show replaceAux (ph n) v 0 ('$' :: (preTail ++ m ++ ['}'] ++ b)) = '$' :: (preTail ++ m ++ ['}'] ++ _)
  rw [replaceAux, if_neg hnp]
  exact congrArg _ (replaceAux_dollarFree _ v _ b (tail_dollarFree m hm))

theorem lookupS_some_of_mem (l : List (String × String)) (k : String) (h : k ∈ l.map (·.1)) : (lookupS l k).isSome = true := by
  obtain ⟨p, hp, e⟩ := List.mem_map.1 h
  rw [lookupS, Option.isSome_map, List.find?_isSome]
  exact ⟨p, hp, decide_eq_true e⟩

theorem lookupLast_some_of_mem (l : List (String × String)) (k : String) (h : k ∈ l.map (·.1)) : (lookupLast l k).isSome = true := by
  apply lookupS_some_of_mem
  rw [List.map_reverse]
  exact List.mem_reverse.2 h

/-- what one trial parameter contributes to `buildMap`: the value its reference resolves to and the number of assignments it
    consumes (the `value` of the model's loop body) -/
def refValue (m : Meta) (asg : List (String × String)) : Ref → Except Err (String × Nat)
  | .assign r => match lookupLast asg r with | some v => .ok (v, 1) | none => .error .notInAssignment
  | .metaName => .ok (m.trialName, 0)
  | .metaNamespace => .ok (m.trialNamespace, 0)
  | .metaKind => .ok (m.kind, 0)
  | .metaAPIVersion => .ok (m.apiVersion, 0)
  | .metaAnnotation k => match lookupS m.annotations k with | some v => .ok (v, 0) | none => .error .illegalMeta
  | .metaLabel k => match lookupS m.labels k with | some v => .ok (v, 0) | none => .error .illegalMeta
  | .illegal => .error .illegalMeta

theorem buildMap_cons (m : Meta) (asg : List (String × String)) (name : String) (ref : Ref) (rest : List (String × Ref)) :
    buildMap m asg ((name, ref) :: rest) =
      match refValue m asg ref with
      | .error e => .error e
      | .ok (v, c) =>
        match buildMap m asg rest with
        | .error e => .error e
        | .ok (ps, n) => .ok ((name, v) :: ps, n + c) := rfl

end Katib.Tpl
