import Katib.Lemmas.Cond
import Katib.Lemmas.Prog
import Katib.Lemmas.Store
/-!
# The suggestion reconcile, call by call

`SugCall v s env now` lists the calls `sugPlan` can make when it read the Suggestion `s` from the view `v`, one constructor per call
site with the conditions on the path to it; `SugWrites` lists the statuses it can write.  `sugPlan_spec` is the one walk of the
decision tree; every other statement about all calls of a suggestion reconcile is read off it with `Prog.All.mono`.
-/
namespace Katib.Ctl
open Katib

theorem length_freshNames (e : String) (n k : Nat) : (freshNames e n k).length = k := by
  induction k generalizing n with
  | zero => rfl
  | succ k ih => simp [freshNames, ih]

theorem freshNames_mem (e : String) (n k : Nat) (x : String) (h : x ∈ freshNames e n k) :
    ∃ i, n < i ∧ i ≤ n + k ∧ x = freshName e i := by
  induction k generalizing n with
  | zero => cases h
  | succ k ih =>
    simp only [freshNames, List.mem_cons] at h
    cases h with
    | inl h => exact ⟨n + 1, by omega, by omega, h⟩
    | inr h => obtain ⟨i, h1, h2, h3⟩ := ih (n + 1) h; exact ⟨i, by omega, by omega, h3⟩

theorem all_sugFinish {P : Call → Prop} {s : SugO} {st : SugSt} :
    (sugFinish s st).All P ↔ (st ≠ s.st → P (.sugStatus s.key s.rv st)) :=
  Prog.all_ite_step

theorem all_sugErr {P : Call → Prop} {s : SugO} {st : SugSt} :
    (sugErr s st).All P ↔ (st.conds ≠ s.st.conds → P (.sugStatus s.key s.rv { s.st with conds := st.conds })) :=
  Prog.all_ite_step

/-- the creates of `ReconcileSuggestion` fail with the status untouched: nothing is written -/
theorem all_sugErr_self {P : Call → Prop} {s : SugO} : (sugErr s s.st).All P :=
  all_sugErr.2 fun hne => absurd rfl hne

theorem all_createIfAbsent {P : Call → Prop} {b : Bool} {c : Call} {next fail : Prog} :
    (createIfAbsent b c next fail).All P ↔ (b = false → P c ∧ fail.All P) ∧ next.All P := by
  unfold createIfAbsent
  cases b with
  | true => simp
  | false =>
    exact ⟨fun ⟨h1, h2, h3⟩ => ⟨fun _ => ⟨h1, h3⟩, h2⟩, fun ⟨h1, h2⟩ => ⟨(h1 rfl).1, h2, (h1 rfl).2⟩⟩

/-- what `Reconcile` does for a Succeeded Suggestion: `deleteDeployment`, then `deleteService` -/
def sugTeardown (v : World) (dk : Key2) : Prog :=
  let delSvc : Prog := if v.svcs.contains dk then .step (.svcDelete dk) (.done .ok) (.done .err) else .done .ok
  if (findDeploy v dk).isSome then .step (.deployDelete dk) delSvc (.done .err) else delSvc

theorem all_sugTeardown {P : Call → Prop} {v : World} {dk : Key2} :
    (sugTeardown v dk).All P ↔
      ((findDeploy v dk).isSome = true → P (.deployDelete dk)) ∧ (v.svcs.contains dk = true → P (.svcDelete dk)) := by
  unfold sugTeardown
  cases (findDeploy v dk).isSome <;> cases v.svcs.contains dk <;> simp [Prog.All]

theorem sugPlan_none {v : World} {k : Key2} (env : SugEnv) (now : Nat) (hs : findSug v k = none) : sugPlan v k env now = .done .ok := by
  unfold sugPlan
  rw [hs]

theorem sugPlan_eq {v : World} {k : Key2} {s : SugO} (env : SugEnv) (now : Nat) (hs : findSug v k = some s) :
    sugPlan v k env now =
      if sHas s .succeeded then sugTeardown v (infraKey k)
      else if !sHas s .created then
        sugFinish s { s.st with started := true, conds := Cond.set s.st.conds .created true rSugCreated now }
      else sugReconcile v s env now := by
  unfold sugPlan
  rw [hs]
  rfl

/-! ### the conditions on the path -/

/-- `ReconcileSuggestion` runs: the Suggestion is Created and not Succeeded -/
structure SugLive (s : SugO) : Prop where
  open_ : sHas s .succeeded = false
  created : sHas s .created = true

/-- ... and finds its Deployment ready -/
structure SugReady (v : World) (s : SugO) : Prop extends SugLive s where
  deployed : ∃ d, findDeploy v (infraKey s.key) = some d ∧ d.ready = true

/-- ... and its Experiment: validation and `SyncAssignments` follow -/
structure SugTail (v : World) (s : SugO) : Prop extends SugReady v s where
  exp : (findExp v s.key).isSome = true

/-- the conditions after `MarkSuggestionStatusDeploymentReady(true)` -/
def sugReadyConds (s : SugO) (now : Nat) : List SCond := Cond.set s.st.conds .deploymentReady true rSugDeployReady now

theorem sugReadyConds_has (s : SugO) (now : Nat) {c : SCT} (h : c ≠ .deploymentReady) :
    Cond.has (sugReadyConds s now) c = sHas s c :=
  Cond.has_set_other h

/-- the conditions `SyncAssignments` starts from: DeploymentReady, and Running marked after validation unless the Suggestion was
    Running -/
inductive SugSyncs (v : World) (s : SugO) (now : Nat) : List SCond → Prop
  | running : SugTail v s → sHas s .running = true → SugSyncs v s now (sugReadyConds s now)
  | validated : SugTail v s → sHas s .running = false →
      SugSyncs v s now (sugMarkRunning (sugReadyConds s now) true rSugRunning now)

theorem SugSyncs.tail {v : World} {s : SugO} {now : Nat} {cs : List SCond} (h : SugSyncs v s now cs) : SugTail v s := by
  cases h with
  | running h _ => exact h
  | validated h _ => exact h

/-- the statuses a suggestion reconcile may write.  Until the reply of the algorithm service is appended only the conditions
    change, so the conditions-only write of the error path (`sugErr`, `updateStatusCondition`) is the status that `updateStatus`
    would write at that point: `noExperiment`, and `synced`, which is written when nothing is to be asked for and when asking
    fails. -/
inductive SugWrites (v : World) (s : SugO) (env : SugEnv) (now : Nat) : SugSt → Prop
  | created : sHas s .succeeded = false → sHas s .created = false →
      SugWrites v s env now { s.st with started := true, conds := Cond.set s.st.conds .created true rSugCreated now }
  | notReady : SugLive s → (∀ d, findDeploy v (infraKey s.key) = some d → d.ready = false) →
      SugWrites v s env now { s.st with conds := Cond.set s.st.conds .deploymentReady false rSugDeployNotReady now }
  | noExperiment : SugReady v s → findExp v s.key = none → SugWrites v s env now { s.st with conds := sugReadyConds s now }
  | invalid : SugTail v s → sHas s .running = false →
      SugWrites v s env now { s.st with conds := sugMarkFailed (sugReadyConds s now) rSugFailed now }
  | synced {cs} : SugSyncs v s now cs → SugWrites v s env now { s.st with conds := cs }
  | appended {cs} : SugSyncs v s now cs → 0 < s.requests - s.st.count → env.algoMode ≠ 3 →
      (replyCount env (s.requests - s.st.count) : Int) = s.requests - s.st.count →
      SugWrites v s env now (sugAppend v s { s.st with conds := cs } (replyCount env (s.requests - s.st.count)))

/-- every call of a suggestion reconcile that read `s` from the view `v`, with the condition under which it is made: one
    constructor per call site of `ReconcileSuggestion.Reconcile` and what it calls -/
inductive SugCall (v : World) (s : SugO) (env : SugEnv) (now : Nat) : Call → Prop
  | deployDelete : sHas s .succeeded = true → (findDeploy v (infraKey s.key)).isSome = true →
      SugCall v s env now (.deployDelete (infraKey s.key))
  | svcDelete : sHas s .succeeded = true → v.svcs.contains (infraKey s.key) = true →
      SugCall v s env now (.svcDelete (infraKey s.key))
  | status {st} : SugWrites v s env now st → st ≠ s.st → SugCall v s env now (.sugStatus s.key s.rv st)
  | pvcCreate : SugLive s → s.resume = .fromVolume → v.pvcs.contains (infraKey s.key) = false →
      SugCall v s env now (.pvcCreate (infraKey s.key))
  | svcCreate : SugLive s → v.svcs.contains (infraKey s.key) = false → SugCall v s env now (.svcCreate (infraKey s.key))
  | saCreate : SugLive s → s.es = true → v.sas.contains (infraKey s.key) = false →
      SugCall v s env now (.saCreate (infraKey s.key))
  | roleCreate : SugLive s → s.es = true → v.roles.contains (infraKey s.key) = false →
      SugCall v s env now (.roleCreate (infraKey s.key))
  | rbCreate : SugLive s → s.es = true → v.rbs.contains (infraKey s.key) = false →
      SugCall v s env now (.rbCreate (infraKey s.key))
  | deployCreate : SugLive s → findDeploy v (infraKey s.key) = none → SugCall v s env now (.deployCreate (infraKey s.key))
  | validate : SugTail v s → sHas s .running = false → SugCall v s env now (.rpcValidate s.key.name)
  | validateES : SugTail v s → sHas s .running = false → s.es = true → SugCall v s env now .rpcValidateES
  | getSuggestions : SugTail v s → 0 < s.requests - s.st.count → env.algoMode ≠ 3 →
      SugCall v s env now (.rpcGetSuggestions s.key.name (s.requests - s.st.count) s.requests (sentTrials (trialsOf v s.key))
        (replyCount env (s.requests - s.st.count)) true)
  | getSuggestionsErr : SugTail v s → 0 < s.requests - s.st.count → env.algoMode = 3 →
      SugCall v s env now (.rpcGetSuggestions s.key.name (s.requests - s.st.count) s.requests (sentTrials (trialsOf v s.key))
        0 false)
  | getRules : SugTail v s → 0 < s.requests - s.st.count → env.algoMode ≠ 3 →
      (replyCount env (s.requests - s.st.count) : Int) = s.requests - s.st.count → s.es = true →
      SugCall v s env now (.rpcGetRules s.key.name (env.esMode = 0))

section Walk
variable {v : World} {s : SugO} {env : SugEnv} {now : Nat}

theorem spec_sugFinish {st : SugSt} (h : SugWrites v s env now st) : (sugFinish s st).All (SugCall v s env now) :=
  all_sugFinish.2 (.status h)

theorem spec_sugErr {st : SugSt} (h : SugWrites v s env now { s.st with conds := st.conds }) :
    (sugErr s st).All (SugCall v s env now) :=
  all_sugErr.2 fun hne => .status h fun e => hne (congrArg SugSt.conds e :)

theorem spec_sugSync {cs : List SCond} (h : SugSyncs v s now cs) :
    (sugSync v s { s.st with conds := cs } (trialsOf v s.key) env).All (SugCall v s env now) := by
  have err : (sugErr s { s.st with conds := cs }).All (SugCall v s env now) := spec_sugErr (.synced h)
  unfold sugSync
  simp only []
  split
  · exact spec_sugFinish (.synced h)
  · rename_i hcur
    have hpos : 0 < s.requests - s.st.count := Int.not_le.1 hcur
    split
    · rename_i hm
      exact ⟨.getSuggestionsErr h.tail hpos hm, err, err⟩
    · rename_i hm
      refine ⟨.getSuggestions h.tail hpos hm, ?_, err⟩
      unfold sugAfterReply
      split
      · exact err
      · rename_i hk
        have hk := Decidable.not_not.1 hk
        have fin : (sugFinish s _).All (SugCall v s env now) := spec_sugFinish (.appended h hpos hm hk)
        split
        · rename_i hes
          exact ⟨.getRules h.tail hpos hm hk hes, fin, err⟩
        · exact fin

theorem spec_sugTail (h : SugReady v s) :
    (sugTail v s { s.st with conds := sugReadyConds s now } env now).All (SugCall v s env now) := by
  unfold sugTail
  split
  · rename_i he
    exact spec_sugErr (.noExperiment h he)
  · rename_i he
    have ht : SugTail v s := ⟨h, by rw [he]; rfl⟩
    split
    · rename_i hr
      have hr : sHas s .running = false := by simpa [sugReadyConds_has] using hr
      have failed : (sugFinish s _).All (SugCall v s env now) := spec_sugFinish (.invalid ht hr)
      have sync : (sugSync v s _ _ env).All (SugCall v s env now) := spec_sugSync (.validated ht hr)
      refine ⟨.validate ht hr, ?_, failed⟩
      split
      · rename_i hes
        exact ⟨.validateES ht hr hes, sync, failed⟩
      · exact sync
    · rename_i hr
      exact spec_sugSync (.running ht (by simpa [sugReadyConds_has] using hr))

theorem spec_sugDeploy (h : SugLive s) : (sugDeploy v s env now).All (SugCall v s env now) := by
  unfold sugDeploy
  simp only []
  split
  · rename_i hd
    exact ⟨.deployCreate h hd, spec_sugFinish (.notReady h fun d hd' => by rw [hd] at hd'; cases hd'), all_sugErr_self⟩
  · rename_i d hd
    split
    · rename_i hr
      exact spec_sugFinish (.notReady h fun d' hd' => by rw [hd] at hd'; cases hd'; simpa using hr)
    · rename_i hr
      exact spec_sugTail ⟨h, d, hd, by simpa using hr⟩

theorem spec_sugCreate {b : Bool} {c : Call} {next : Prog} (hc : b = false → SugCall v s env now c)
    (hn : next.All (SugCall v s env now)) : (createIfAbsent b c next (sugErr s s.st)).All (SugCall v s env now) :=
  all_createIfAbsent.2 ⟨fun hb => ⟨hc hb, all_sugErr_self⟩, hn⟩

theorem spec_sugReconcile (h : SugLive s) : (sugReconcile v s env now).All (SugCall v s env now) := by
  have rbac : (sugRbac v s env now).All (SugCall v s env now) := by
    unfold sugRbac
    split
    · rename_i hes
      exact spec_sugCreate (.saCreate h hes) (spec_sugCreate (.roleCreate h hes) (spec_sugCreate (.rbCreate h hes) (spec_sugDeploy h)))
    · exact spec_sugDeploy h
  unfold sugReconcile
  split
  · rename_i hr
    exact spec_sugCreate (.pvcCreate h hr) (spec_sugCreate (.svcCreate h) rbac)
  · exact spec_sugCreate (.svcCreate h) rbac

end Walk

theorem sugPlan_spec {v : World} {k : Key2} {s : SugO} (env : SugEnv) (now : Nat) (hs : findSug v k = some s) :
    (sugPlan v k env now).All (SugCall v s env now) := by
  have hk : k = s.key := (findSug_key hs).symm
  rw [sugPlan_eq env now hs, hk]
  split
  · rename_i hsucc
    exact all_sugTeardown.2 ⟨.deployDelete hsucc, .svcDelete hsucc⟩
  · rename_i hsucc
    have hsucc : sHas s .succeeded = false := Bool.eq_false_iff.2 hsucc
    split
    · rename_i hc
      exact spec_sugFinish (.created hsucc (by simpa using hc))
    · rename_i hc
      exact spec_sugReconcile ⟨hsucc, by simpa using hc⟩

theorem nosucc_markRunning {cs : List SCond} {b : Bool} {r : String} {now : Nat} : Cond.has (sugMarkRunning cs b r now) .succeeded = false := by
  unfold sugMarkRunning
  rw [Cond.has_set_other (by decide), Cond.has_remove_self]

theorem nosucc_markFailed {cs : List SCond} {r : String} {now : Nat} (h : Cond.has cs .succeeded = false) :
    Cond.has (sugMarkFailed cs r now) .succeeded = false := by
  unfold sugMarkFailed
  rw [Cond.has_set_other (by decide)]
  split
  · rw [Cond.has_set_other (by decide)]; exact h
  · exact h

theorem SugSyncs.nosucc {v : World} {s : SugO} {now : Nat} {cs : List SCond} (h : SugSyncs v s now cs) :
    Cond.has cs .succeeded = false := by
  cases h with
  | running h _ => exact (sugReadyConds_has s now (by decide)).trans h.open_
  | validated _ _ => exact nosucc_markRunning

theorem SugWrites.nosucc {v : World} {s : SugO} {env : SugEnv} {now : Nat} {st : SugSt} (h : SugWrites v s env now st) :
    Cond.has st.conds .succeeded = false := by
  cases h with
  | created h _ => exact (Cond.has_set_other (by decide)).trans h
  | notReady h _ | noExperiment h _ => exact (Cond.has_set_other (by decide)).trans h.open_
  | invalid h _ => exact nosucc_markFailed ((sugReadyConds_has s now (by decide)).trans h.open_)
  | synced h | appended h _ _ _ => exact h.nosucc

theorem sugPlan_all {P : Call → Prop} {v : World} {k : Key2} {env : SugEnv} {now : Nat}
    (h : ∀ s, findSug v k = some s → ∀ c, SugCall v s env now c → P c) : (sugPlan v k env now).All P := by
  cases hs : findSug v k with
  | none => rw [sugPlan_none env now hs]; trivial
  | some s => exact (sugPlan_spec env now hs).mono (h s hs)

/-- everything a suggestion reconcile may call, and under which condition on the Suggestion it read -/
def SugCallGuard (v : World) (s : SugO) : Call → Prop
  | .rpcGetSuggestions e cur total sent _ _ =>
    sHas s .succeeded = false ∧ e = s.key.name ∧ cur = s.requests - s.st.count ∧ total = s.requests ∧
    sent = sentTrials (trialsOf v s.key) ∧ 0 < cur
  | .rpcGetRules e _ => sHas s .succeeded = false ∧ s.es = true ∧ e = s.key.name
  | .rpcValidate e => sHas s .succeeded = false ∧ e = s.key.name
  | .rpcValidateES => sHas s .succeeded = false ∧ s.es = true
  | .deployDelete k' => sHas s .succeeded = true ∧ k' = infraKey s.key
  | .svcDelete k' => sHas s .succeeded = true ∧ k' = infraKey s.key
  | .deployCreate k' => sHas s .succeeded = false ∧ k' = infraKey s.key
  | .svcCreate k' => sHas s .succeeded = false ∧ k' = infraKey s.key
  | .pvcCreate k' => sHas s .succeeded = false ∧ k' = infraKey s.key ∧ s.resume = .fromVolume
  | .saCreate k' => sHas s .succeeded = false ∧ k' = infraKey s.key ∧ s.es = true
  | .roleCreate k' => sHas s .succeeded = false ∧ k' = infraKey s.key ∧ s.es = true
  | .rbCreate k' => sHas s .succeeded = false ∧ k' = infraKey s.key ∧ s.es = true
  | .sugStatus k' rv _ => k' = s.key ∧ rv = s.rv
  | _ => False

theorem sugPlan_guard (v : World) (k : Key2) (env : SugEnv) (now : Nat) (s : SugO) (hs : findSug v k = some s) :
    (sugPlan v k env now).All (SugCallGuard v s) :=
  (sugPlan_spec env now hs).mono fun c hc => by
    cases hc with
    | deployDelete h _ | svcDelete h _ => exact ⟨h, rfl⟩
    | status _ _ => exact ⟨rfl, rfl⟩
    | pvcCreate h hc _ | saCreate h hc _ | roleCreate h hc _ | rbCreate h hc _ => exact ⟨h.open_, rfl, hc⟩
    | svcCreate h _ | deployCreate h _ | validate h _ => exact ⟨h.open_, rfl⟩
    | validateES h _ hes => exact ⟨h.open_, hes⟩
    | getSuggestions h hpos _ | getSuggestionsErr h hpos _ => exact ⟨h.open_, rfl, rfl, rfl, rfl, hpos⟩
    | getRules h _ _ _ hes => exact ⟨h.open_, hes, rfl⟩

end Katib.Ctl
