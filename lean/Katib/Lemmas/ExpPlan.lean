import Katib.Lemmas.Prog
import Katib.Lemmas.Store
import Katib.Props.C03
/-!
# The experiment reconcile, call by call

`ExpCall v e now` lists the calls `expPlan` can make when it read the Experiment `e` from the view `v`, one constructor per call
site with the conditions on the path to it; `ExpWrites` lists the statuses it can write.  `expPlan_spec` is the one walk of the
decision tree; every other statement about all calls of an experiment reconcile is read off it with `Prog.All.mono`.
-/
namespace Katib.Ctl
open Katib Katib.Exp

theorem all_expFinish {P : Call → Prop} {e : ExpO} {st : ExpSt} :
    (expFinish e st).All P ↔ (st ≠ e.st → P (.expStatus e.key e.rv st)) :=
  Prog.all_ite_step

theorem all_creates {P : Call → Prop} {e : ExpO} {l : List String} {k : Prog} :
    (l.foldr (fun a k => Prog.step (.trialCreate (mkTrial e a)) k k) k).All P ↔
      (∀ a ∈ l, P (.trialCreate (mkTrial e a))) ∧ k.All P := by
  induction l with
  | nil => simp
  | cons a l ih =>
    simp only [List.foldr_cons, Prog.All, ih, List.mem_cons, forall_eq_or_imp]
    exact ⟨fun ⟨h1, h2, _⟩ => ⟨⟨h1, h2.1⟩, h2.2⟩, fun ⟨⟨h1, h2⟩, h3⟩ => ⟨h1, ⟨h2, h3⟩, ⟨h2, h3⟩⟩⟩

/-- the status after `UpdateExperimentStatus`, which runs only on a non-empty Trial list -/
def expRefresh (v : World) (e : ExpO) (st : ExpSt) (now : Nat) : ExpSt :=
  if (trialsOf v e.key).isEmpty then st else expUpdateStatus e st (trialsOf v e.key) now

theorem expRefresh_cases (v : World) (e : ExpO) (st : ExpSt) (now : Nat) :
    (trialsOf v e.key = [] ∧ expRefresh v e st now = st) ∨
    (trialsOf v e.key ≠ [] ∧ expRefresh v e st now = expUpdateStatus e st (trialsOf v e.key) now) := by
  unfold expRefresh
  split
  · rename_i h; exact Or.inl ⟨List.isEmpty_iff.1 h, rfl⟩
  · rename_i h; exact Or.inr ⟨fun h0 => h (by rw [h0]; rfl), rfl⟩

theorem expMain_eq (v : World) (e : ExpO) (st : ExpSt) (now : Nat) :
    expMain v e st now =
      if !Cond.has st.conds .created then
        expFinish e { st with started := true, conds := Cond.set st.conds .created true rCreated now }
      else if !isCompleted (expRefresh v e st now).conds then
        expReconcileTrials v e (expRefresh v e st now) (trialsOf v e.key) now
      else expFinish e (expRefresh v e st now) := rfl

/-- `cleanupSuggestionResources` in front of `next` -/
def expCleanup (v : World) (k : Key2) (e : ExpO) (now : Nat) (next : Prog) : Prog :=
  if e.cfg.resume = .never ∨ e.cfg.resume = .fromVolume then
    match findSug v k with
    | none => next
    | some s =>
      if sCompleted s || sRestarting s then next
      else .step (.sugStatus k s.rv { s.st with conds := sugMarkSucceeded s.st.conds rSugExpSucceeded now }) next (.done .err)
  else next

/-- `restartSuggestion` in front of `next` -/
def expRestartSug (v : World) (k : Key2) (e : ExpO) (now : Nat) (next : Prog) : Prog :=
  if e.cfg.resume = .fromVolume then
    match findSug v k with
    | none => next
    | some s =>
      if sRestarting s then next
      else .step (.sugStatus k s.rv { s.st with conds := sugMarkRunning s.st.conds false rSugRestart now }) next (.done .err)
  else next

theorem expPlan_none {v : World} {k : Key2} (now : Nat) (he : findExp v k = none) : expPlan v k now = .done .ok := by
  unfold expPlan
  rw [he]

theorem expPlan_eq {v : World} {k : Key2} {e : ExpO} (now : Nat) (he : findExp v k = some e) :
    expPlan v k now =
      if !e.deleted && !e.fin then .step (.expUpdateFin k e.rv true) (.done .requeue) (.done .err)
      else if e.deleted && e.fin then .step (.expUpdateFin k e.rv false) (.done .requeue) (.done .err)
      else if isCompleted e.st.conds then
        if restartGuard e then
          expCleanup v k e now (expRestartSug v k e now (expMain v e { e.st with conds := markRestarting e.st.conds now } now))
        else if cnt e.st.counts 4 == 0 then expCleanup v k e now (.done .ok)
        else expCleanup v k e now (expMain v e e.st now)
      else expMain v e e.st now := by
  unfold expPlan
  rw [he]
  rfl

theorem all_expCleanup {P : Call → Prop} {v : World} {k : Key2} {e : ExpO} {now : Nat} {next : Prog} (hn : next.All P)
    (h : ∀ s, (e.cfg.resume = .never ∨ e.cfg.resume = .fromVolume) → findSug v k = some s → (sCompleted s || sRestarting s) = false →
      P (.sugStatus k s.rv { s.st with conds := sugMarkSucceeded s.st.conds rSugExpSucceeded now })) :
    (expCleanup v k e now next).All P := by
  unfold expCleanup
  split
  · rename_i hr
    split
    · exact hn
    · rename_i s hs
      split
      · exact hn
      · rename_i hc; exact ⟨h s hr hs (by simpa using hc), hn, trivial⟩
  · exact hn

theorem all_expRestartSug {P : Call → Prop} {v : World} {k : Key2} {e : ExpO} {now : Nat} {next : Prog} (hn : next.All P)
    (h : ∀ s, e.cfg.resume = .fromVolume → findSug v k = some s → sRestarting s = false →
      P (.sugStatus k s.rv { s.st with conds := sugMarkRunning s.st.conds false rSugRestart now })) :
    (expRestartSug v k e now next).All P := by
  unfold expRestartSug
  split
  · rename_i hr
    split
    · exact hn
    · rename_i s hs
      split
      · exact hn
      · rename_i hc; exact ⟨h s hr hs (by simpa using hc), hn, trivial⟩
  · exact hn

/-- the status a reconcile of `e` works on: the stored one, or, under the restart guard, the stored one with its verdict withdrawn -/
inductive ExpStart (e : ExpO) (now : Nat) : ExpSt → Prop
  | stored : (isCompleted e.st.conds = true → restartGuard e = false) → ExpStart e now e.st
  | restarting : isCompleted e.st.conds = true → restartGuard e = true →
      ExpStart e now { e.st with conds := markRestarting e.st.conds now }

/-- `ReconcileTrials` wants more Trials: the Experiment is Created, has no verdict after the refresh, fewer Trials are active than
    `parallelTrialCount`, and `addCount` is positive -/
structure ExpAdds (v : World) (e : ExpO) (now : Nat) (st : ExpSt) : Prop where
  start : ExpStart e now st
  created : Cond.has st.conds .created = true
  open_ : isCompleted (expRefresh v e st now).conds = false
  below : activeCount (expRefresh v e st now) < e.par
  pos : 0 < addCount e (expRefresh v e st now)

/-- `spec.requests` as `ReconcileSuggestions` wants it: Trials seen + `addCount` − early-stopped Trials without observation -/
def expWanted (v : World) (e : ExpO) (st : ExpSt) : Int :=
  ((trialsOf v e.key).length : Int) + addCount e st -
    (((trialsOf v e.key).filter (fun t => !obsAvailable t.st && tHas t .earlyStopped)).length : Int)

/-- the statuses an experiment reconcile may write -/
inductive ExpWrites (v : World) (e : ExpO) (now : Nat) : ExpSt → Prop
  | created {st} : ExpStart e now st → Cond.has st.conds .created = false →
      ExpWrites v e now { st with started := true, conds := Cond.set st.conds .created true rCreated now }
  | refreshed {st} : ExpStart e now st → Cond.has st.conds .created = true → ExpWrites v e now (expRefresh v e st now)
  | sugFailed {st s} : ExpAdds v e now st → findSug v e.key = some s → sHas s .failed = true →
      ExpWrites v e now { expRefresh v e st now with conds := markFailed (expRefresh v e st now).conds rFailed now }

/-- every call of an experiment reconcile that read `e` from the view `v`, with the condition under which it is made: one
    constructor per call site of `ReconcileExperiment.Reconcile` and what it calls -/
inductive ExpCall (v : World) (e : ExpO) (now : Nat) : Call → Prop
  | addFinalizer : e.deleted = false → e.fin = false → ExpCall v e now (.expUpdateFin e.key e.rv true)
  | removeFinalizer : e.deleted = true → e.fin = true → ExpCall v e now (.expUpdateFin e.key e.rv false)
  | cleanup {s} : isCompleted e.st.conds = true → (e.cfg.resume = .never ∨ e.cfg.resume = .fromVolume) → findSug v e.key = some s →
      (sCompleted s || sRestarting s) = false →
      ExpCall v e now (.sugStatus e.key s.rv { s.st with conds := sugMarkSucceeded s.st.conds rSugExpSucceeded now })
  | restart {s} : isCompleted e.st.conds = true → restartGuard e = true → e.cfg.resume = .fromVolume → findSug v e.key = some s →
      sRestarting s = false →
      ExpCall v e now (.sugStatus e.key s.rv { s.st with conds := sugMarkRunning s.st.conds false rSugRestart now })
  | status {st} : ExpWrites v e now st → st ≠ e.st → ExpCall v e now (.expStatus e.key e.rv st)
  | sugCreate {st} : ExpAdds v e now st → findSug v e.key = none →
      ExpCall v e now (.sugCreate { key := e.key, requests := expWanted v e (expRefresh v e st now), resume := e.cfg.resume, es := e.cfg.es })
  | sugUpdateReq {st s} : ExpAdds v e now st → findSug v e.key = some s → sHas s .failed = false →
      s.requests ≠ expWanted v e (expRefresh v e st now) →
      ExpCall v e now (.sugUpdateReq e.key s.rv (expWanted v e (expRefresh v e st now)))
  | trialCreate {st s a} : ExpAdds v e now st → findSug v e.key = some s → sHas s .failed = false →
      ((trialsOf v e.key).length : Int) < s.st.names.length → a ∈ s.st.names → (∀ t ∈ trialsOf v e.key, t.key.name ≠ a) →
      ExpCall v e now (.trialCreate (mkTrial e a))

theorem spec_expFinish {v : World} {e : ExpO} {now : Nat} {st : ExpSt} (h : ExpWrites v e now st) :
    (expFinish e st).All (ExpCall v e now) :=
  all_expFinish.2 (.status h)

theorem spec_expCreateTrials {v : World} {e : ExpO} {now : Nat} {st : ExpSt} (h : ExpAdds v e now st) :
    (expCreateTrials v e (expRefresh v e st now) (trialsOf v e.key) (addCount e (expRefresh v e st now)) now).All (ExpCall v e now) := by
  have fin := spec_expFinish (v := v) (.refreshed h.start h.created)
  unfold expCreateTrials
  simp only []
  split
  · rename_i hs
    exact ⟨.sugCreate h hs, fin, trivial⟩
  · rename_i s hs
    split
    · rename_i hf
      exact spec_expFinish (.sugFailed h hs hf)
    · rename_i hf
      have hf : sHas s .failed = false := by simpa using hf
      have tc : ∀ {a}, a ∈ (if (s.st.names.length : Int) > ((trialsOf v e.key).length : Nat)
          then s.st.names.filter (fun n => !((trialsOf v e.key).any (fun t => t.key.name = n))) else []) →
          ExpCall v e now (.trialCreate (mkTrial e a)) := by
        intro a ha
        split at ha
        · rename_i hlen
          obtain ⟨h1, h2⟩ := List.mem_filter.1 ha
          exact .trialCreate h hs hf hlen h1 (by simpa using h2)
        · cases ha
      split
      · rename_i hreq
        exact ⟨.sugUpdateReq h hs hf hreq, all_creates.2 ⟨fun _ => tc, fin⟩, trivial⟩
      · exact all_creates.2 ⟨fun _ => tc, fin⟩

theorem spec_expMain {v : World} {e : ExpO} {now : Nat} {st : ExpSt} (h : ExpStart e now st) :
    (expMain v e st now).All (ExpCall v e now) := by
  rw [expMain_eq]
  split
  · rename_i hc
    exact spec_expFinish (.created h (by simpa using hc))
  · rename_i hc
    have hc : Cond.has st.conds .created = true := by simpa using hc
    have fin := spec_expFinish (v := v) (.refreshed h hc)
    split
    · rename_i ho
      unfold expReconcileTrials
      split
      · trivial
      · split
        · rename_i hb
          split
          · rename_i hp
            exact spec_expCreateTrials ⟨h, hc, by simpa using ho, hb, hp⟩
          · exact fin
        · exact fin
    · exact fin

theorem expPlan_spec {v : World} {k : Key2} {e : ExpO} (now : Nat) (he : findExp v k = some e) :
    (expPlan v k now).All (ExpCall v e now) := by
  have hk : k = e.key := (findExp_key he).symm
  rw [expPlan_eq now he, hk]
  split
  · rename_i h
    simp only [Bool.and_eq_true, Bool.not_eq_true'] at h
    exact ⟨.addFinalizer h.1 h.2, trivial, trivial⟩
  · split
    · rename_i h
      simp only [Bool.and_eq_true] at h
      exact ⟨.removeFinalizer h.1 h.2, trivial, trivial⟩
    · split
      · rename_i hc
        have cleanup : ∀ {next : Prog}, next.All (ExpCall v e now) → (expCleanup v e.key e now next).All (ExpCall v e now) :=
          fun hn => all_expCleanup hn (fun s hr hs ho => .cleanup hc hr hs ho)
        split
        · rename_i hg
          exact cleanup (all_expRestartSug (spec_expMain (.restarting hc hg)) (fun s hr hs ho => .restart hc hg hr hs ho))
        · rename_i hg
          split
          · exact cleanup trivial
          · exact cleanup (spec_expMain (.stored (fun _ => by simpa using hg)))
      · rename_i hc
        exact spec_expMain (.stored (fun h => absurd h hc))

theorem expPlan_all {P : Call → Prop} {v : World} {k : Key2} {now : Nat}
    (h : ∀ e, findExp v k = some e → ∀ c, ExpCall v e now c → P c) : (expPlan v k now).All P := by
  cases he : findExp v k with
  | none => rw [expPlan_none now he]; trivial
  | some e => exact (expPlan_spec now he).mono (h e he)

/-- the induction principle for the statuses an experiment reconcile writes: a set of statuses that contains the stored one and is
    closed under the restart, the Created mark, the refresh on a non-empty Trial list and the Failed mark on an open status contains
    every status written -/
theorem ExpWrites.closed {v : World} {e : ExpO} {now : Nat} {S : ExpSt → Prop} (stored : S e.st)
    (restarting : restartGuard e = true → S { e.st with conds := markRestarting e.st.conds now })
    (created : ∀ st, S st → S { st with started := true, conds := Cond.set st.conds .created true rCreated now })
    (updated : ∀ st, S st → trialsOf v e.key ≠ [] → S (expUpdateStatus e st (trialsOf v e.key) now))
    (failed : ∀ st, S st → isCompleted st.conds = false → S { st with conds := markFailed st.conds rFailed now })
    {st : ExpSt} (h : ExpWrites v e now st) : S st := by
  have start : ∀ {st}, ExpStart e now st → S st := by
    intro st hs
    cases hs with
    | stored _ => exact stored
    | restarting _ hg => exact restarting hg
  have refreshed : ∀ {st}, ExpStart e now st → S (expRefresh v e st now) := by
    intro st hs
    rcases expRefresh_cases v e st now with ⟨_, hr⟩ | ⟨hne, hr⟩ <;> rw [hr]
    · exact start hs
    · exact updated st (start hs) hne
  cases h with
  | created hs _ => exact created _ (start hs)
  | refreshed hs _ => exact refreshed hs
  | sugFailed ha _ _ => exact failed _ (refreshed ha.start) ha.open_

/-- everything an experiment reconcile may call, in terms of the view -/
def ExpGuard (v : World) (e : ExpO) : Call → Prop
  | .trialCreate t' =>
    t'.key.ns = e.key.ns ∧ t'.exp = e.key.name ∧ (∃ s, findSug v e.key = some s ∧ t'.key.name ∈ s.st.names) ∧
    (∀ t ∈ trialsOf v e.key, t.key.name ≠ t'.key.name) ∧ t'.st = {} ∧ t'.retain = e.cfg.retain ∧ t'.deleted = false
  | .sugCreate s' => findSug v e.key = none ∧ s'.key = e.key ∧ s'.st = {} ∧ s'.resume = e.cfg.resume ∧ s'.es = e.cfg.es
  | .sugUpdateReq k' rv req => ∃ s, findSug v e.key = some s ∧ k' = e.key ∧ rv = s.rv ∧ req ≠ s.requests
  | .sugStatus k' rv st' =>
    ∃ s, findSug v e.key = some s ∧ k' = e.key ∧ rv = s.rv ∧ st'.names = s.st.names ∧ st'.count = s.st.count ∧
      isCompleted e.st.conds = true
  | .expStatus k' rv st' => k' = e.key ∧ rv = e.rv ∧ st' ≠ e.st
  | .expUpdateFin k' rv _ => k' = e.key ∧ rv = e.rv
  | _ => False

theorem expPlan_guard (v : World) (k : Key2) (now : Nat) (e : ExpO) (he : findExp v k = some e) :
    (expPlan v k now).All (ExpGuard v e) :=
  (expPlan_spec now he).mono fun c hc => by
    cases hc with
    | addFinalizer _ _ => exact ⟨rfl, rfl⟩
    | removeFinalizer _ _ => exact ⟨rfl, rfl⟩
    | cleanup hc _ hs _ => exact ⟨_, hs, rfl, rfl, rfl, rfl, hc⟩
    | restart hc _ _ hs _ => exact ⟨_, hs, rfl, rfl, rfl, rfl, hc⟩
    | status _ hne => exact ⟨rfl, rfl, hne⟩
    | sugCreate _ hs => exact ⟨hs, rfl, rfl, rfl, rfl⟩
    | sugUpdateReq _ hs _ hreq => exact ⟨_, hs, rfl, rfl, fun h => hreq h.symm⟩
    | trialCreate _ hs _ _ ha hno => exact ⟨rfl, rfl, ⟨_, hs, ha⟩, hno, rfl, rfl, rfl⟩

theorem counts_of_update (e : ExpO) (st : ExpSt) (ts : List TrialO) (now : Nat) :
    (expUpdateStatus e st ts now).counts =
      countsOfLists (summarise { ty := e.cfg.objType, goal := e.cfg.goal } (ts.map toTrialV)).lists := by
  unfold expUpdateStatus updateStatus
  split <;> rfl

theorem conds_of_update (e : ExpO) (st : ExpSt) (ts : List TrialO) (now : Nat) (hnc : isCompleted st.conds = false) :
    (expUpdateStatus e st ts now).conds =
      (updateCondition { maxTrials := e.maxT, maxFailed := e.maxF }
        (countsOf (summarise { ty := e.cfg.objType, goal := e.cfg.goal } (ts.map toTrialV)).lists)
        { conds := st.conds, completion := st.completion }
        (summarise { ty := e.cfg.objType, goal := e.cfg.goal } (ts.map toTrialV)).goalReached false now).conds := by
  unfold expUpdateStatus updateStatus
  simp only [hnc, Bool.false_eq_true, if_false]

theorem expUpdateStatus_frozen (e : ExpO) (st : ExpSt) (ts : List TrialO) (now : Nat) (h : isCompleted st.conds = true) :
    (expUpdateStatus e st ts now).conds = st.conds ∧ (expUpdateStatus e st ts now).completion = st.completion := by
  unfold expUpdateStatus
  simp only []
  have := C03_frozen { ty := e.cfg.objType, goal := e.cfg.goal } { maxTrials := e.maxT, maxFailed := e.maxF } (ts.map toTrialV)
    { conds := st.conds, completion := st.completion } now h
  generalize hu : updateStatus _ _ _ _ _ = u at this ⊢
  obtain ⟨l, s⟩ := u
  subst this
  exact ⟨rfl, rfl⟩

theorem expRefresh_frozen {v : World} {e : ExpO} {st : ExpSt} {now : Nat} (h : isCompleted st.conds = true) :
    (expRefresh v e st now).conds = st.conds ∧ (expRefresh v e st now).completion = st.completion := by
  rcases expRefresh_cases v e st now with ⟨_, hr⟩ | ⟨_, hr⟩ <;> rw [hr]
  · exact ⟨rfl, rfl⟩
  · exact expUpdateStatus_frozen e st _ now h

/-- what an experiment reconcile may call when the Experiment it read carries a verdict and is not being restarted:
    status rewrites that keep verdict, reason and completion time, and the suggestion clean-up -/
def FrozenGuard (e : ExpO) : Call → Prop
  | .expStatus _ _ st' => st'.conds = e.st.conds ∧ st'.completion = e.st.completion
  | .sugStatus _ _ _ => True
  | _ => False

theorem ExpStart.eq_stored {e : ExpO} {now : Nat} {st : ExpSt} (hr : restartGuard e = false) (h : ExpStart e now st) : st = e.st := by
  cases h with
  | stored _ => rfl
  | restarting _ hg => rw [hr] at hg; cases hg

theorem ExpAdds.not_frozen {v : World} {e : ExpO} {now : Nat} {st : ExpSt} (hc : isCompleted e.st.conds = true)
    (hr : restartGuard e = false) (h : ExpAdds v e now st) : False := by
  have ho := h.open_
  rw [h.start.eq_stored hr, (expRefresh_frozen hc).1, hc] at ho
  cases ho

theorem ExpWrites.frozen {v : World} {e : ExpO} {now : Nat} {st : ExpSt} (hc : isCompleted e.st.conds = true)
    (hcr : Cond.has e.st.conds .created = true) (hr : restartGuard e = false) (h : ExpWrites v e now st) :
    st.conds = e.st.conds ∧ st.completion = e.st.completion := by
  cases h with
  | created hs h => rw [hs.eq_stored hr, hcr] at h; cases h
  | refreshed hs _ => rw [hs.eq_stored hr]; exact expRefresh_frozen hc
  | sugFailed ha _ _ => exact (ha.not_frozen hc hr).elim

theorem expPlan_frozen (v : World) (k : Key2) (now : Nat) (e : ExpO) (he : findExp v k = some e)
    (hfin : e.fin = true) (hdel : e.deleted = false) (hc : isCompleted e.st.conds = true)
    (hcr : Cond.has e.st.conds .created = true) (hr : restartGuard e = false) :
    (expPlan v k now).All (FrozenGuard e) :=
  (expPlan_spec now he).mono fun c hcall => by
    cases hcall with
    | addFinalizer _ h => rw [hfin] at h; cases h
    | removeFinalizer h _ => rw [hdel] at h; cases h
    | cleanup _ _ _ _ => trivial
    | restart _ hg _ _ _ => rw [hr] at hg; cases hg
    | status hw _ => exact hw.frozen hc hcr hr
    | sugCreate ha _ => exact (ha.not_frozen hc hr).elim
    | sugUpdateReq ha _ _ _ => exact (ha.not_frozen hc hr).elim
    | trialCreate ha _ _ _ _ _ => exact (ha.not_frozen hc hr).elim

end Katib.Ctl
