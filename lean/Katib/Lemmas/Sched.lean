import Katib.Lemmas.Calls
import Katib.Lemmas.Prog
import Katib.Model.Sim
/-!
# Invariants over every schedule

A statement about every list of simulator operations is an invariant `I` of the store together with a relation `R` between an
earlier and a later store.  `Sched.run` is the induction over the schedule, done once: what is left to show for a particular
`I`, `R` is one operation, from a state in which the live store and every snapshot satisfy `I` and every snapshot is `R`-before
the live store.  An operation is a reconcile, which executes on the live store a `Plan` of a view that takes each typed kind from
a snapshot of its own (`Sched.plan`: that is `exec_rel` — calls justified by `J` preserve `I` and move the store along `R` — plus
the fact that every plan of a view is justified by the snapshots behind the view), or an environment event (`Sched.env`; what the events do to each part of the store is stated once below).
`I` may mention the history, to say "some snapshot shows …": then it must survive `Array.push`.
-/
namespace Katib.Ctl
open Katib

def run (s : Sim) (ops : List Op) : Sim := ops.foldl (fun s op => (step s op).1) s

theorem exec_rel {I : World → Prop} {R : World → World → Prop} {J : Call → Prop} (refl : ∀ w, R w w)
    (trans : ∀ {a b c}, R a b → R b c → R a c) {w0 : World}
    (call : ∀ {w c w'}, I w → R w0 w → J c → applyCall w c = .ok w' → I w' ∧ R w w')
    (f : Faults) {p : Prog} (hp : p.All J) (hI : I w0) : I (exec f p w0 0 []).w ∧ R w0 (exec f p w0 0 []).w :=
  exec_preserves (I := fun w => I w ∧ R w0 w) f
    (fun _ _ _ hw hc h => let ⟨a, b⟩ := call hw.1 hw.2 hc h; ⟨a, trans hw.2 b⟩) p w0 0 [] hp ⟨hI, refl w0⟩

def Op.env : Op → Bool
  | .recExp _ _ _ _ _ | .recSug _ _ _ _ _ _ _ | .recTrial _ _ _ => false
  | _ => true

def Op.part : Op → Part
  | .job _ _ | .jobGone _ => .jobs
  | .metric _ _ _ _ => .db
  | .earlyStop _ | .userDelete _ => .trials
  | .deployReady _ => .infra
  | .editMax _ _ => .exps
  | _ => .none

theorem stepWorld_frame {s : Sim} {op : Op} (h : op.env = true) : Frame op.part s.cur (stepWorld s op).1 := by
  cases op <;> cases h <;> simp only [stepWorld] <;> repeat' split
  all_goals rfl

theorem stepWorld_earlyStop (s : Sim) (k : Key2) :
    (stepWorld s (.earlyStop k)).1 = s.cur ∨
    ∃ t, findTrial s.cur k = some t ∧ tCompleted t = false ∧ tHas t .running = true ∧
      (stepWorld s (.earlyStop k)).1 = updTrial s.cur k (fun t => { t with rv := t.rv + 1, st := { t.st with conds :=
        t.st.conds ++ [{ ty := .earlyStopped, st := true, reason := rTrialES, tt := s.opIndex }] } }) := by
  simp only [stepWorld]
  split
  · exact Or.inl rfl
  · rename_i t ht
    split
    · exact Or.inl rfl
    · rename_i hc
      simp only [Bool.or_eq_true, Bool.not_eq_true', not_or, Bool.not_eq_true, Bool.not_eq_false] at hc
      exact Or.inr ⟨t, ht, hc.1, hc.2, rfl⟩

theorem stepWorld_userDelete (s : Sim) (k : Key2) :
    (stepWorld s (.userDelete k)).1 = s.cur ∨
    ∃ t, findTrial s.cur k = some t ∧ t.deleted = false ∧
      ((t.fin = true ∧ (stepWorld s (.userDelete k)).1 = updTrial s.cur k (fun t => { t with deleted := true, rv := t.rv + 1 })) ∨
       (t.fin = false ∧ (stepWorld s (.userDelete k)).1 = { s.cur with trials := s.cur.trials.filter (fun t => ¬ t.key = k) })) := by
  simp only [stepWorld]
  split
  · exact Or.inl rfl
  · rename_i t ht
    split
    · exact Or.inl rfl
    · rename_i hd
      split
      · rename_i hf; exact Or.inr ⟨t, ht, by simpa using hd, Or.inl ⟨hf, rfl⟩⟩
      · rename_i hf; exact Or.inr ⟨t, ht, by simpa using hd, Or.inr ⟨by simpa using hf, rfl⟩⟩

theorem stepWorld_editMax (s : Sim) (k : Key2) (n : Int) :
    (stepWorld s (.editMax k n)).1 = s.cur ∨
    (stepWorld s (.editMax k n)).1 = updExp s.cur k (fun e => { e with maxT := some n, rv := e.rv + 1 }) := by
  simp only [stepWorld]
  split
  · exact Or.inl rfl
  · exact Or.inr rfl

theorem stepWorld_deployReady (s : Sim) (k : Key2) :
    (stepWorld s (.deployReady k)).1 = s.cur ∨
    (stepWorld s (.deployReady k)).1 =
      { s.cur with deploys := s.cur.deploys.map (fun d => if d.key = infraKey k then { d with ready := true } else d) } := by
  simp only [stepWorld]
  split
  · exact Or.inl rfl
  · exact Or.inr rfl

theorem stepWorld_job (s : Sim) (k : Key2) (ok : Bool) :
    (stepWorld s (.job k ok)).1 = s.cur ∨
    (stepWorld s (.job k ok)).1 =
      { s.cur with jobs := s.cur.jobs.map (fun j => if j.key = k then { j with state := jobAfter j.state ok } else j) } := by
  simp only [stepWorld]
  split
  · exact Or.inl rfl
  · exact Or.inr rfl

theorem stepWorld_jobGone (s : Sim) (k : Key2) :
    (stepWorld s (.jobGone k)).1 = s.cur ∨
    ∃ t, findTrial s.cur k = some t ∧ tCompleted t = true ∧ (findJob s.cur k).isSome = true ∧
      (stepWorld s (.jobGone k)).1 = { s.cur with jobs := s.cur.jobs.filter (fun j => ¬ j.key = k) } := by
  simp only [stepWorld]
  split
  · exact Or.inl rfl
  · rename_i t ht
    split
    · rename_i hc
      simp only [Bool.and_eq_true] at hc
      exact Or.inr ⟨t, ht, hc.1, hc.2, rfl⟩
    · exact Or.inl rfl

theorem stepWorld_exps_cases {s : Sim} {op : Op} (hop : op.env = true) :
    (stepWorld s op).1.exps = s.cur.exps ∨
    ∃ k n, op = .editMax k n ∧ (stepWorld s op).1 = updExp s.cur k (fun e => { e with maxT := some n, rv := e.rv + 1 }) := by
  by_cases hp : op.part = .exps
  · cases op with
    | editMax k n =>
      rcases stepWorld_editMax s k n with h | h
      · exact Or.inl (by rw [h])
      · exact Or.inr ⟨k, n, rfl, h⟩
    | _ => cases hp
  · exact Or.inl ((stepWorld_frame hop).exps hp)

theorem stepWorld_exps {P : ExpO → Prop} {s : Sim} {op : Op} (hop : op.env = true) (hP : ∀ e ∈ s.cur.exps, P e)
    (hedit : ∀ {k n}, op = .editMax k n → ∀ e, P e → e.key = k → P { e with maxT := some n, rv := e.rv + 1 }) :
    ∀ e ∈ (stepWorld s op).1.exps, P e := by
  rcases stepWorld_exps_cases hop with hfr | ⟨_, _, hc, h⟩
  · rw [hfr]; exact hP
  · rw [h]; exact forall_updExp hP (fun e he => hedit hc e (hP e he))

theorem stepWorld_trials_cases {s : Sim} {op : Op} (hop : op.env = true) :
    (stepWorld s op).1.trials = s.cur.trials ∨
    (∃ k t, op = .earlyStop k ∧ findTrial s.cur k = some t ∧ tCompleted t = false ∧
      (stepWorld s op).1 = updTrial s.cur k (fun t => { t with rv := t.rv + 1, st := { t.st with conds :=
        t.st.conds ++ [{ ty := .earlyStopped, st := true, reason := rTrialES, tt := s.opIndex }] } })) ∨
    (∃ k, op = .userDelete k ∧
      ((stepWorld s op).1 = updTrial s.cur k (fun t => { t with deleted := true, rv := t.rv + 1 }) ∨
       (stepWorld s op).1 = { s.cur with trials := s.cur.trials.filter (fun t => ¬ t.key = k) })) := by
  by_cases hp : op.part = .trials
  · cases op with
    | earlyStop k =>
      rcases stepWorld_earlyStop s k with h | ⟨t, ht, hc, _, h⟩
      · exact Or.inl (by rw [h])
      · exact Or.inr (Or.inl ⟨k, t, rfl, ht, hc, h⟩)
    | userDelete k =>
      rcases stepWorld_userDelete s k with h | ⟨_, _, _, ⟨_, h⟩ | ⟨_, h⟩⟩
      · exact Or.inl (by rw [h])
      · exact Or.inr (Or.inr ⟨k, rfl, Or.inl h⟩)
      · exact Or.inr (Or.inr ⟨k, rfl, Or.inr h⟩)
    | _ => cases hp
  · exact Or.inl ((stepWorld_frame hop).trials hp)

theorem stepWorld_jobs_cases {s : Sim} {op : Op} (hop : op.env = true) :
    (stepWorld s op).1.jobs = s.cur.jobs ∨
    (∃ k ok, (stepWorld s op).1 =
      { s.cur with jobs := s.cur.jobs.map (fun j => if j.key = k then { j with state := jobAfter j.state ok } else j) }) ∨
    (∃ k t, findTrial s.cur k = some t ∧ tCompleted t = true ∧
      (stepWorld s op).1 = { s.cur with jobs := s.cur.jobs.filter (fun j => ¬ j.key = k) }) := by
  by_cases hp : op.part = .jobs
  · cases op with
    | job k ok =>
      rcases stepWorld_job s k ok with h | h
      · exact Or.inl (by rw [h])
      · exact Or.inr (Or.inl ⟨k, ok, h⟩)
    | jobGone k =>
      rcases stepWorld_jobGone s k with h | ⟨t, ht, hc, _, h⟩
      · exact Or.inl (by rw [h])
      · exact Or.inr (Or.inr ⟨k, t, ht, hc, h⟩)
    | _ => cases hp
  · exact Or.inl ((stepWorld_frame hop).jobs hp)

theorem stepWorld_sugs {s : Sim} {op : Op} (h : op.env = true) : (stepWorld s op).1.sugs = s.cur.sugs :=
  (stepWorld_frame h).sugs (by cases op <;> nofun)

theorem stepWorld_algoN {s : Sim} {op : Op} (h : op.env = true) : (stepWorld s op).1.algoN = s.cur.algoN :=
  (stepWorld_frame h).algoN (by cases op <;> nofun)

/-- the plans a reconcile computes from the view `v` at the time `now`: any of the three controllers, for any object -/
inductive Plan (v : World) (now : Nat) : Prog → Prop
  | exp (k : Key2) : Plan v now (expPlan v k now)
  | sug (k : Key2) (env : SugEnv) : Plan v now (sugPlan v k env now)
  | trial (k : Key2) : Plan v now (trialPlan v k now)

/-- an operation is an environment event, or a reconcile: the plan computed from a view that takes each typed kind from a snapshot of
    its own is executed on the live store -/
theorem stepWorld_cases (s : Sim) (op : Op) :
    op.env = true ∨
    ∃ f vE vT vS vD p, Plan (assemble s vE vT vS vD) s.opIndex p ∧ (stepWorld s op).1 = (exec f p s.cur 0 []).w := by
  cases op with
  | recExp k vE vT vS f => exact Or.inr ⟨f, vE, vT, vS, _, _, .exp k, rfl⟩
  | recSug k vS vE vT vD f e => exact Or.inr ⟨f, vE, vT, vS, vD, _, .sug k e, rfl⟩
  | recTrial k vT f => exact Or.inr ⟨f, _, vT, _, _, _, .trial k, rfl⟩
  | _ => exact Or.inl rfl

/-- `I` (of the history so far and a store) holds of every snapshot, every snapshot is `R`-before the live store, and the live
    store is the last snapshot -/
structure SInv (I : Array World → World → Prop) (R : World → World → Prop) (s : Sim) : Prop where
  past : ∀ (i : Nat) (h : World), s.hist[i]? = some h → I s.hist h ∧ R h s.cur
  last : s.hist[s.hist.size - 1]? = some s.cur

theorem SInv.cur {I : Array World → World → Prop} {R : World → World → Prop} {s : Sim} (hI : SInv I R s) : I s.hist s.cur :=
  (hI.past _ _ hI.last).1

theorem SInv.snap {I : Array World → World → Prop} {R : World → World → Prop} {s : Sim} (hI : SInv I R s) (i : Nat) :
    I s.hist (snapAt s i) ∧ R (snapAt s i) s.cur := by
  unfold snapAt
  cases h : s.hist[i]? with
  | none => exact hI.past _ _ hI.last   -- beyond the history the live store is read, which is the last snapshot
  | some w => exact hI.past i w h

theorem getElem?_push_some {α : Type} {hs : Array α} {i : Nat} {a : α} (w : α) (h : hs[i]? = some a) : (hs.push w)[i]? = some a := by
  obtain ⟨hi, rfl⟩ := Array.getElem?_eq_some_iff.1 h
  exact Array.getElem?_push_lt hi

/-- some snapshot of the history `hs` satisfies `P`: the form of an invariant that is stated relative to the growing history -/
def Ever (hs : Array World) (P : World → Prop) : Prop := ∃ (i : Nat) (h : World), hs[i]? = some h ∧ P h

theorem Ever.push {P : World → Prop} {hs : Array World} (w : World) (h : Ever hs P) : Ever (hs.push w) P :=
  let ⟨i, h0, hi, hp⟩ := h
  ⟨i, h0, getElem?_push_some w hi, hp⟩

/-- whatever a reconcile reads is a snapshot of the history -/
theorem SInv.ever_snap {I : Array World → World → Prop} {R : World → World → Prop} {s : Sim} (hI : SInv I R s) (i : Nat)
    {P : World → Prop} (h : P (snapAt s i)) : Ever s.hist P := by
  unfold snapAt at h
  cases hi : s.hist[i]? with
  | none => rw [hi] at h; exact ⟨s.hist.size - 1, _, hI.last, h⟩
  | some w => rw [hi] at h; exact ⟨i, w, hi, h⟩

/-- what has to be shown of `I`, `R` for the operations allowed by `ok`: a reconcile executes a `Plan` on the live store, every
    other operation is an environment event -/
structure Sched (ok : Op → Prop) (I : Array World → World → Prop) (R : World → World → Prop) : Prop where
  refl : ∀ w, R w w
  trans : ∀ {a b c}, R a b → R b c → R a c
  push : ∀ {hs w} (w' : World), I hs w → I (hs.push w') w
  plan : ∀ {s : Sim} {p : Prog} (f : Faults) (vE vT vS vD : Nat), Plan (assemble s vE vT vS vD) s.opIndex p → SInv I R s →
    I s.hist (exec f p s.cur 0 []).w ∧ R s.cur (exec f p s.cur 0 []).w
  env : ∀ {s : Sim} {op : Op}, ok op → op.env = true → SInv I R s → I s.hist (stepWorld s op).1 ∧ R s.cur (stepWorld s op).1

theorem Sched.step {ok : Op → Prop} {I : Array World → World → Prop} {R : World → World → Prop} (S : Sched ok I R)
    {s : Sim} (op : Op) (hop : ok op) (hI : SInv I R s) : I s.hist (stepWorld s op).1 ∧ R s.cur (stepWorld s op).1 := by
  rcases stepWorld_cases s op with h | ⟨f, vE, vT, vS, vD, p, hp, h⟩
  · exact S.env hop h hI
  · rw [h]
    exact S.plan f vE vT vS vD hp hI

theorem Sched.next {ok : Op → Prop} {I : Array World → World → Prop} {R : World → World → Prop} (S : Sched ok I R)
    {s : Sim} {op : Op} (hop : ok op) (hI : SInv I R s) : SInv I R (Ctl.step s op).1 := by
  obtain ⟨hW, hP⟩ := S.step op hop hI
  refine ⟨fun i h hh => ?_, by simp [Ctl.step]⟩
  simp only [Ctl.step, Array.getElem?_push] at hh
  split at hh
  · cases hh
    exact ⟨S.push _ hW, S.refl _⟩
  · exact ⟨S.push _ (hI.past i h hh).1, S.trans (hI.past i h hh).2 hP⟩

theorem Sched.run {ok : Op → Prop} {I : Array World → World → Prop} {R : World → World → Prop} (S : Sched ok I R)
    {ops : List Op} (hops : ∀ op ∈ ops, ok op) {s : Sim} (hI : SInv I R s) : SInv I R (Ctl.run s ops) := by
  induction ops generalizing s with
  | nil => exact hI
  | cons op r ih => exact ih (fun o ho => hops o (List.mem_cons_of_mem _ ho)) (S.next (hops op List.mem_cons_self) hI)

theorem SInv.mono {I I' : Array World → World → Prop} {R R' : World → World → Prop} {s : Sim} (hI : SInv I R s)
    (hi : ∀ {hs w}, I hs w → I' hs w) (hr : ∀ {a b}, R a b → R' a b) : SInv I' R' s :=
  ⟨fun i h hh => ⟨hi (hI.past i h hh).1, hr (hI.past i h hh).2⟩, hI.last⟩

/-- a second invariant on top of `S`, for operations that `S` allows: its steps may use both, also what `S` gives of the new store,
    and the transitivity of its relation may use that of `S` -/
theorem Sched.extend {ok ok' : Op → Prop} {I I' : Array World → World → Prop} {R R' : World → World → Prop} (S : Sched ok I R)
    (hok : ∀ {op}, ok' op → ok op) (refl : ∀ w, R' w w) (trans : ∀ {a b c}, R a b ∧ R' a b → R b c ∧ R' b c → R' a c)
    (push : ∀ {hs w} (w' : World), I' hs w → I' (hs.push w') w)
    (plan : ∀ {s : Sim} {p : Prog} (f : Faults) (vE vT vS vD : Nat), Plan (assemble s vE vT vS vD) s.opIndex p →
      SInv (fun hs w => I hs w ∧ I' hs w) (fun a b => R a b ∧ R' a b) s →
      I s.hist (exec f p s.cur 0 []).w ∧ R s.cur (exec f p s.cur 0 []).w →
      I' s.hist (exec f p s.cur 0 []).w ∧ R' s.cur (exec f p s.cur 0 []).w)
    (env : ∀ {s : Sim} {op : Op}, ok' op → op.env = true →
      SInv (fun hs w => I hs w ∧ I' hs w) (fun a b => R a b ∧ R' a b) s →
      I s.hist (stepWorld s op).1 ∧ R s.cur (stepWorld s op).1 → I' s.hist (stepWorld s op).1 ∧ R' s.cur (stepWorld s op).1) :
    Sched ok' (fun hs w => I hs w ∧ I' hs w) (fun a b => R a b ∧ R' a b) where
  refl w := ⟨S.refl w, refl w⟩
  trans h1 h2 := ⟨S.trans h1.1 h2.1, trans h1 h2⟩
  push w' h := ⟨S.push w' h.1, push w' h.2⟩
  plan f vE vT vS vD hp hI :=
    have h1 := S.plan f vE vT vS vD hp (hI.mono And.left And.left)
    have h2 := plan f vE vT vS vD hp hI h1
    ⟨⟨h1.1, h2.1⟩, h1.2, h2.2⟩
  env hop henv hI :=
    have h1 := S.env (hok hop) henv (hI.mono And.left And.left)
    have h2 := env hop henv hI h1
    ⟨⟨h1.1, h2.1⟩, h1.2, h2.2⟩

theorem SInv.init {I : Array World → World → Prop} {R : World → World → Prop} (refl : ∀ w, R w w) (es : List ExpInit)
    (h : I (Sim.init es).hist (Sim.init es).cur) : SInv I R (Sim.init es) := by
  refine ⟨fun i w hh => ?_, by simp [Sim.init]⟩
  have : w = (Sim.init es).cur := by
    cases i with
    | zero => simpa [Sim.init, eq_comm] using hh
    | succ j => simp [Sim.init] at hh
  rw [this]
  exact ⟨h, refl _⟩

theorem Sched.run_init {ok : Op → Prop} {I : Array World → World → Prop} {R : World → World → Prop} (S : Sched ok I R)
    (es : List ExpInit) {ops : List Op} (hops : ∀ op ∈ ops, ok op) (h : I (Sim.init es).hist (Sim.init es).cur) :
    SInv I R (Ctl.run (Sim.init es) ops) :=
  S.run hops (SInv.init S.refl es h)

-- (`rfl` proves these too, but wherever it is left to the unifier it first compares `assemble …` with `snapAt …` field by field)
theorem assemble_exps (s : Sim) (vE vT vS vD : Nat) : (assemble s vE vT vS vD).exps = (snapAt s vE).exps := by
  unfold assemble
  rfl

theorem assemble_trials (s : Sim) (vE vT vS vD : Nat) : (assemble s vE vT vS vD).trials = (snapAt s vT).trials := by
  unfold assemble
  rfl

theorem assemble_sugs (s : Sim) (vE vT vS vD : Nat) : (assemble s vE vT vS vD).sugs = (snapAt s vS).sugs := by
  unfold assemble
  rfl

theorem findExp_assemble (s : Sim) (vE vT vS vD : Nat) (k : Key2) : findExp (assemble s vE vT vS vD) k = findExp (snapAt s vE) k :=
  findExp_congr (assemble_exps ..) k

theorem findSug_assemble (s : Sim) (vE vT vS vD : Nat) (k : Key2) : findSug (assemble s vE vT vS vD) k = findSug (snapAt s vS) k :=
  findSug_congr (assemble_sugs ..) k

theorem trialsOf_assemble (s : Sim) (vE vT vS vD : Nat) (k : Key2) : trialsOf (assemble s vE vT vS vD) k = trialsOf (snapAt s vT) k := by
  unfold trialsOf
  rw [assemble_trials]

theorem init_exps {P : ExpO → Prop} {es : List ExpInit}
    (h : ∀ ei ∈ es, P { key := ei.key, par := ei.par, maxT := ei.maxT, maxF := ei.maxF, cfg := ei.cfg }) :
    ∀ e ∈ (Sim.init es).cur.exps, P e := by
  intro e he
  obtain ⟨ei, hei, rfl⟩ := List.mem_map.1 he
  exact h ei hei

end Katib.Ctl
