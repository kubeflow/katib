import Katib.Lemmas.Sched
import Katib.Lemmas.SugPlan
import Katib.Lemmas.TrialPlan
/-!
# A property of every Experiment, over every schedule

Experiments are written by the experiment reconcile (status, finalizer) and by the user's edit of `maxTrialCount`, by nobody
else.  `expStSched` is the `Sched` of a property `P` of Experiment objects (which may mention the history) that the finalizer write
and the edit keep and that a status write keeps when the status satisfies `Q`: what is left to show for a particular `P` is that
the experiment reconcile writes only statuses that satisfy `Q`.
-/
namespace Katib.Ctl
open Katib Katib.Exp

/-- a call gives an Experiment only a status that satisfies `Q` (of the Experiment's key and the status) -/
def ExpStJust (Q : Key2 → ExpSt → Prop) : Call → Prop
  | .expStatus k _ st => Q k st
  | _ => True

/-- the suggestion controller writes no Experiment -/
theorem sugPlan_expSt (Q : Key2 → ExpSt → Prop) (v : World) (k : Key2) (env : SugEnv) (now : Nat) :
    (sugPlan v k env now).All (ExpStJust Q) :=
  sugPlan_all fun _ _ _ hc => by cases hc <;> trivial

/-- the trial controller writes no Experiment -/
theorem trialPlan_expSt (Q : Key2 → ExpSt → Prop) (v : World) (k : Key2) (now : Nat) : (trialPlan v k now).All (ExpStJust Q) :=
  trialPlan_all fun _ _ _ hc => by cases hc <;> trivial

theorem expStSched {P : Array World → ExpO → Prop} {Q : Array World → Key2 → ExpSt → Prop}
    (push : ∀ {hs e} (w' : World), P hs e → P (hs.push w') e)
    (status : ∀ {hs e st}, P hs e → Q hs e.key st → P hs { e with st := st, rv := e.rv + 1 })
    (fin : ∀ {hs e b}, P hs e → P hs { e with fin := b, rv := e.rv + 1 })
    (edit : ∀ {hs e n}, P hs e → P hs { e with maxT := some n, rv := e.rv + 1 })
    (exp : ∀ {s : Sim} (vE vT vS vD : Nat) (k : Key2), SInv (fun hs w => ∀ e ∈ w.exps, P hs e) (fun _ _ => True) s →
      (expPlan (assemble s vE vT vS vD) k s.opIndex).All (ExpStJust (Q s.hist))) :
    Sched (fun _ => True) (fun hs w => ∀ e ∈ w.exps, P hs e) (fun _ _ => True) where
  refl _ := trivial
  trans _ _ := trivial
  push w' h e he := push w' (h e he)
  plan {s p} f vE vT vS vD hp hI := by
    refine ⟨exec_preserves (P := ExpStJust (Q s.hist)) f (fun _ _ _ hI hJ h => applyCall_exps (P := P s.hist) h hI
      (fun hc _ hP hk => by subst hc; exact status hP (hk ▸ hJ)) (fun _ _ hP _ => fin hP)) _ _ 0 [] ?_ hI.cur, trivial⟩
    cases hp with
    | exp k => exact exp vE vT vS vD k hI
    | sug k env => exact sugPlan_expSt _ _ k env _
    | trial k => exact trialPlan_expSt _ _ k _
  env _ hop hI := ⟨stepWorld_exps hop hI.cur (fun _ _ hP _ => edit hP), trivial⟩

end Katib.Ctl
