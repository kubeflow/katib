import Katib.Model.Cond
/-! Lemmas about condition lists. -/
namespace Katib.Cond
variable {τ : Type} [DecidableEq τ]

theorem get_remove_self (cs : List (Cond τ)) (t : τ) : get (remove cs t) t = none := by
  induction cs with
  | nil => rfl
  | cons c cs ih =>
    simp only [remove]
    split
    · exact ih
    · rename_i h; simp only [get, h, if_false]; exact ih

theorem get_remove_other (cs : List (Cond τ)) {t t' : τ} (h : t' ≠ t) : get (remove cs t) t' = get cs t' := by
  induction cs with
  | nil => rfl
  | cons c cs ih =>
    simp only [remove]
    split
    · rename_i h1
      have h2 : ¬ c.ty = t' := fun h3 => h (h3 ▸ h1)
      simp only [get, h2, if_false]; exact ih
    · simp only [get]; split
      · rfl
      · exact ih

theorem get_append_single (cs : List (Cond τ)) (c : Cond τ) (t : τ) :
    get (cs ++ [c]) t = match get cs t with | some x => some x | none => if c.ty = t then some c else none := by
  induction cs with
  | nil => simp only [List.nil_append, get]
  | cons d cs ih =>
    simp only [List.cons_append, get]
    split
    · rfl
    · exact ih

theorem get_some_ty {cs : List (Cond τ)} {t : τ} {c : Cond τ} (h : get cs t = some c) : c.ty = t := by
  induction cs with
  | nil => simp [get] at h
  | cons d cs ih =>
    simp only [get] at h
    split at h
    · cases h; assumption
    · exact ih h

theorem get_set_self (cs : List (Cond τ)) (t : τ) (st : Bool) (r : String) (now : Nat) :
    ∃ c, get (set cs t st r now) t = some c ∧ c.st = st ∧ c.reason = r ∧ c.ty = t := by
  unfold set
  cases h : get cs t with
  | some c =>
    simp only []
    split
    · rename_i hh
      exact ⟨c, h, hh.1, hh.2, get_some_ty h⟩
    · refine ⟨{ ty := t, st := st, reason := r, tt := if c.st = st then c.tt else now }, ?_, rfl, rfl, rfl⟩
      rw [get_append_single, get_remove_self]; simp
  | none =>
    refine ⟨{ ty := t, st := st, reason := r, tt := now }, ?_, rfl, rfl, rfl⟩
    rw [get_append_single, get_remove_self]; simp

theorem get_set_other (cs : List (Cond τ)) {t t' : τ} (h : t' ≠ t) (st : Bool) (r : String) (now : Nat) :
    get (set cs t st r now) t' = get cs t' := by
  have h' : ¬ t = t' := fun e => h e.symm
  unfold set
  cases hg : get cs t with
  | some c =>
    simp only []
    split
    · rfl
    · rw [get_append_single, get_remove_other cs h]
      cases get cs t' <;> simp [h']
  | none =>
    rw [get_append_single, get_remove_other cs h]
    cases get cs t' <;> simp [h']

theorem has_set_self {cs : List (Cond τ)} {t : τ} {st : Bool} {r : String} {now : Nat} :
    has (set cs t st r now) t = st := by
  obtain ⟨c, hc, hst, _, _⟩ := get_set_self cs t st r now
  unfold has; rw [hc]; exact hst

theorem has_set_other {cs : List (Cond τ)} {t t' : τ} (h : t' ≠ t) {st : Bool} {r : String} {now : Nat} :
    has (set cs t st r now) t' = has cs t' := by
  unfold has; rw [get_set_other cs h]

theorem reasonOf_set_self {cs : List (Cond τ)} {t : τ} {st : Bool} {r : String} {now : Nat} :
    reasonOf (set cs t st r now) t = some r := by
  obtain ⟨c, hc, _, hr, _⟩ := get_set_self cs t st r now
  unfold reasonOf; rw [hc]; simp [hr]

theorem reasonOf_set_other {cs : List (Cond τ)} {t t' : τ} (h : t' ≠ t) {st : Bool} {r : String} {now : Nat} :
    reasonOf (set cs t st r now) t' = reasonOf cs t' := by
  unfold reasonOf; rw [get_set_other cs h]

theorem has_remove_self {cs : List (Cond τ)} {t : τ} : has (remove cs t) t = false := by
  unfold has; rw [get_remove_self]

theorem has_remove_other {cs : List (Cond τ)} {t t' : τ} (h : t' ≠ t) : has (remove cs t) t' = has cs t' := by
  unfold has; rw [get_remove_other cs h]

theorem has_append_mono {cs : List (Cond τ)} {c : Cond τ} {t : τ} (h : has cs t = true) :
    has (cs ++ [c]) t = true := by
  unfold has at h ⊢
  rw [get_append_single]
  cases hg : get cs t with
  | none => rw [hg] at h; cases h
  | some x => rw [hg] at h; exact h

theorem has_append_other {cs : List (Cond τ)} {c : Cond τ} {t : τ} (hne : c.ty ≠ t) :
    has (cs ++ [c]) t = has cs t := by
  unfold has
  rw [get_append_single]
  cases hg : get cs t with
  | none => simp [hne]
  | some x => rfl

theorem ne_of_has {cs' cs : List (Cond τ)} {c : τ} (h' : has cs' c = true) (h : has cs c = false) : cs' ≠ cs :=
  fun e => by
    rw [e, h] at h'
    cases h'

end Katib.Cond
