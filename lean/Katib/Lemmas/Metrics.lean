import Katib.Model.Metrics
/-! Helper lemmas for C11 (per-record invariants, decomposition of the map loop). -/
namespace Katib.Metrics

-- the old `split` re-simplifies every nested `if` after each case, which is slow to check on `updMinMax`
set_option backward.split false

/-! ### what an update leaves alone -/

theorem updMinMax_frame (m : Metric) (e : Entry) :
    (updMinMax m e).name = m.name ∧ (updMinMax m e).lastTs = m.lastTs ∧ (updMinMax m e).latest = m.latest := by
  unfold updMinMax
  split
  · exact ⟨rfl, rfl, rfl⟩
  split
  · split
    · exact ⟨rfl, rfl, rfl⟩
    split
    · exact ⟨rfl, rfl, rfl⟩
    · exact ⟨rfl, rfl, rfl⟩
  · exact ⟨rfl, rfl, rfl⟩

theorem updLatest_frame (m : Metric) (e : Entry) (t : Int) :
    (updLatest m e t).name = m.name ∧ (updLatest m e t).min = m.min ∧ (updLatest m e t).max = m.max ∧
    (updLatest m e t).minK = m.minK ∧ (updLatest m e t).maxK = m.maxK := by
  unfold updLatest
  split
  · split
    · exact ⟨rfl, rfl, rfl, rfl, rfl⟩
    · exact ⟨rfl, rfl, rfl, rfl, rfl⟩
  · exact ⟨rfl, rfl, rfl, rfl, rfl⟩

theorem updMetric_eq_some {m m' : Metric} {e : Entry} (h : updMetric m e = some m') :
    ∃ t, e.ts = some t ∧ m' = updLatest (updMinMax m e) e t := by
  unfold updMetric at h
  split at h
  · cases h
  · exact ⟨_, ‹_›, (Option.some.inj h).symm⟩

theorem updMetric_name {m m' : Metric} {e : Entry} (h : updMetric m e = some m') : m'.name = m.name := by
  obtain ⟨t, _, rfl⟩ := updMetric_eq_some h
  rw [(updLatest_frame _ e t).1, (updMinMax_frame m e).1]

theorem runOne_name {m r : Metric} {l : List Entry} (h : runOne m l = some r) : r.name = m.name := by
  induction l generalizing m with
  | nil => rw [← Option.some.inj h]
  | cons e es ih =>
    simp only [runOne] at h
    split at h
    · rw [ih h, updMetric_name ‹_›]
    · cases h

theorem runOne_none_iff {l : List Entry} {m : Metric} : runOne m l = none ↔ ∃ e ∈ l, e.ts = none := by
  induction l generalizing m with
  | nil => simp [runOne]
  | cons e es ih =>
    cases hts : e.ts with
    | none => simp [runOne, updMetric, hts]
    | some t => simp [runOne, updMetric, hts, ih]

theorem optMap_congr {α β : Type} {f g : α → Option β} {l : List α} (h : ∀ a ∈ l, f a = g a) :
    optMap f l = optMap g l := by
  induction l with
  | nil => rfl
  | cons a l ih =>
    obtain ⟨ha, hl⟩ := List.forall_mem_cons.1 h
    rw [optMap, optMap, ha, ih hl]

theorem optMap_map {α β γ : Type} (f : α → Option β) (g : γ → α) (l : List γ) :
    optMap f (l.map g) = optMap (fun c => f (g c)) l := by
  induction l with
  | nil => rfl
  | cons c l ih => rw [List.map_cons, optMap, optMap, ih]

theorem optMap_bind {α β γ : Type} (f : α → Option β) (g : β → Option γ) (l : List α) :
    (optMap f l).bind (optMap g) = optMap (fun a => (f a).bind g) l := by
  induction l with
  | nil => rfl
  | cons a l ih =>
    rw [optMap, optMap, ← ih]
    cases f a with
    | none => rfl
    | some b =>
      cases optMap f l with
      | none => cases hg : g b <;> simp [hg]
      | some r => rfl

theorem optMap_map_fst {α β : Type} {f : α → Option β} {l : List α} {r : List β} {γ : Type}
    (p : α → γ) (q : β → γ) (hpq : ∀ a b, f a = some b → q b = p a)
    (h : optMap f l = some r) : r.map q = l.map p := by
  induction l generalizing r with
  | nil => rw [← Option.some.inj h]; rfl
  | cons a l ih =>
    rw [optMap] at h
    split at h
    · rename_i b r' hb hr
      rw [← Option.some.inj h, List.map_cons, List.map_cons, hpq a b hb, ih hr]
    · cases h

theorem optMap_eq_some {α β : Type} {f : α → Option β} {l : List α} {r : List β} (h : optMap f l = some r) :
    l.map f = r.map some :=
  (optMap_map_fst f some (fun _ _ e => e.symm) h).symm

theorem optMap_some_mem {α β : Type} {f : α → Option β} {l : List α} {r : List β}
    (h : optMap f l = some r) : ∀ b, b ∈ r ↔ ∃ a ∈ l, f a = some b := by
  intro b
  have hb : some b ∈ r.map some ↔ b ∈ r := by simp
  rw [← hb, ← optMap_eq_some h, List.mem_map]

theorem optMap_none_iff {α β : Type} {f : α → Option β} {l : List α} :
    optMap f l = none ↔ ∃ a ∈ l, f a = none := by
  induction l with
  | nil => simp [optMap]
  | cons a l ih =>
    simp only [optMap, List.mem_cons, exists_eq_or_imp, ← ih]
    cases f a <;> cases optMap f l <;> simp

/-! ### decomposition of the loop into independent per-metric runs -/

def own (n : String) (es : List Entry) : List Entry := es.filter (fun e => e.metric = n)

theorem run_eq_optMap (ms : List Metric) (es : List Entry) :
    run ms es = optMap (fun m => runOne m (own m.name es)) ms := by
  induction es generalizing ms with
  | nil =>
    induction ms with
    | nil => rfl
    | cons m ms ih => rw [optMap, ← ih]; rfl
  | cons e es ih =>
    have hstep : run ms (e :: es) = (stepEntry ms e).bind (fun ms' => run ms' es) := by
      rw [run]; cases stepEntry ms e <;> rfl
    rw [hstep, funext ih, stepEntry, optMap_bind]
    apply optMap_congr
    intro m _
    unfold stepOne own
    by_cases hn : m.name = e.metric
    · rw [if_pos hn, List.filter_cons, if_pos (decide_eq_true hn.symm), runOne]
      cases hu : updMetric m e with
      | none => rfl
      | some m' => rw [Option.bind_some, updMetric_name hu, hn]
    · rw [if_neg hn, Option.bind_some, List.filter_cons, if_neg (by simpa using Ne.symm hn)]

/-! ### per-record invariant: what the record says about the entries processed so far -/

/-- `x` is the text of the first entry of `p` whose key is extremal w.r.t. `lt` (strictly better than all
    earlier keyed entries, at least as good as all later ones). -/
def FirstExt (lt : Int → Int → Prop) (p : List Entry) (x : String) (k : Int) : Prop :=
  ∃ pre e post, p = pre ++ e :: post ∧ e.key = some k ∧ e.text = x ∧
    (∀ e' ∈ pre, ∀ k', e'.key = some k' → lt k k') ∧
    (∀ e' ∈ post, ∀ k', e'.key = some k' → ¬ lt k' k)

/-- `x` is the text of the last entry of `p` carrying the greatest timestamp. -/
def LastLatest (p : List Entry) (x : String) (t : Int) : Prop :=
  ∃ pre e post, p = pre ++ e :: post ∧ e.ts = some t ∧ e.text = x ∧
    (∀ e' ∈ pre, ∀ t', e'.ts = some t' → t' ≤ t) ∧
    (∀ e' ∈ post, ∀ t', e'.ts = some t' → t' < t)

theorem FirstExt.snoc {lt : Int → Int → Prop} {p : List Entry} {x : String} {k : Int} {e : Entry}
    (h : FirstExt lt p x k) (he : ∀ k', e.key = some k' → ¬ lt k' k) : FirstExt lt (p ++ [e]) x k := by
  obtain ⟨pre, e0, post, hp, hk0, hx, h1, h2⟩ := h
  refine ⟨pre, e0, post ++ [e], by simp [hp], hk0, hx, h1, fun e' he' k' hk' => ?_⟩
  rcases List.mem_append.1 he' with h | h
  · exact h2 e' h k' hk'
  · exact he k' (List.mem_singleton.1 h ▸ hk')

theorem FirstExt.snoc_keep {lt : Int → Int → Prop} {p : List Entry} {x : String} {k k' : Int} {e : Entry}
    (h : FirstExt lt p x k) (hk : e.key = some k') (hlt : ¬ lt k' k) : FirstExt lt (p ++ [e]) x k :=
  h.snoc fun _ hk'' => Option.some.inj (hk.symm.trans hk'') ▸ hlt

theorem FirstExt.snoc_new {lt : Int → Int → Prop} {p : List Entry} {e : Entry} {k : Int} (hk : e.key = some k)
    (h : ∀ e' ∈ p, ∀ k', e'.key = some k' → lt k k') : FirstExt lt (p ++ [e]) e.text k :=
  ⟨p, e, [], rfl, hk, rfl, h, List.forall_mem_nil _⟩

theorem FirstExt.not_lt {lt : Int → Int → Prop} {p : List Entry} {x : String} {k : Int} (h : FirstExt lt p x k)
    (hasymm : ∀ a b, lt a b → ¬ lt b a) : ∀ e' ∈ p, ∀ k', e'.key = some k' → ¬ lt k' k := by
  obtain ⟨pre, e0, post, rfl, hk, _, h1, h2⟩ := h
  intro e' he' k' hk'
  rcases List.mem_append.1 he' with h | h
  · exact hasymm _ _ (h1 e' h k' hk')
  rcases List.mem_cons.1 h with h | h
  · rw [h, hk] at hk'
    exact Option.some.inj hk' ▸ fun hlt => hasymm _ _ hlt hlt
  · exact h2 e' h k' hk'

theorem FirstExt.all_ge {p : List Entry} {x : String} {k : Int} (h : FirstExt (· < ·) p x k) :
    ∀ e' ∈ p, ∀ k', e'.key = some k' → k ≤ k' :=
  fun e' he' k' hk' => Int.not_lt.1 (h.not_lt (fun _ _ => Int.lt_asymm) e' he' k' hk')

theorem FirstExt.all_le {p : List Entry} {x : String} {k : Int} (h : FirstExt (fun a b => b < a) p x k) :
    ∀ e' ∈ p, ∀ k', e'.key = some k' → k' ≤ k :=
  fun e' he' k' hk' => Int.not_lt.1 (h.not_lt (fun _ _ => Int.lt_asymm) e' he' k' hk')

theorem FirstExt.key_mem {lt : Int → Int → Prop} {p : List Entry} {x : String} {k : Int} (h : FirstExt lt p x k) :
    ∃ e ∈ p, e.key = some k := by
  obtain ⟨pre, e, post, rfl, hk, _⟩ := h
  exact ⟨e, by simp, hk⟩

theorem LastLatest.all_le {p : List Entry} {x : String} {t : Int} (h : LastLatest p x t) :
    ∀ e' ∈ p, ∀ t', e'.ts = some t' → t' ≤ t := by
  obtain ⟨pre, e0, post, rfl, hk, _, h1, h2⟩ := h
  intro e' he' t' ht'
  rcases List.mem_append.1 he' with h | h
  · exact h1 e' h t' ht'
  rcases List.mem_cons.1 h with h | h
  · rw [h, hk] at ht'
    exact Int.le_of_eq (Option.some.inj ht').symm
  · exact Int.le_of_lt (h2 e' h t' ht')

/-- `K`, `x` record the extremal key of `p` w.r.t. `lt` and the text of its first occurrence; nothing when no entry is keyed -/
def ExtInv (lt : Int → Int → Prop) (p : List Entry) (K : Option Int) (x : String) : Prop :=
  match K with
  | none => (∀ e ∈ p, e.key = none) ∧ x = unavailable
  | some k => FirstExt lt p x k

theorem ExtInv.skip {lt : Int → Int → Prop} {p : List Entry} {K : Option Int} {x : String} {e : Entry}
    (h : ExtInv lt p K x) (he : e.key = none) : ExtInv lt (p ++ [e]) K x := by
  cases K with
  | none => exact ⟨fun e' he' => (List.mem_append.1 he').elim (h.1 e') fun h' => List.mem_singleton.1 h' ▸ he, h.2⟩
  | some k => exact FirstExt.snoc h fun k' hk' => nomatch he.symm.trans hk'

theorem ExtInv.of_keyed {lt : Int → Int → Prop} {p : List Entry} {K : Option Int} {x : String} {e : Entry}
    (h : ExtInv lt p K x) (he : e ∈ p) (hk : e.key ≠ none) : ∃ k, FirstExt lt p x k := by
  cases K with
  | none => exact absurd (h.1 e he) hk
  | some k => exact ⟨k, h⟩

theorem ExtInv.of_unkeyed {lt : Int → Int → Prop} {p : List Entry} {K : Option Int} {x : String}
    (h : ExtInv lt p K x) (hp : ∀ e ∈ p, e.key = none) : x = unavailable := by
  cases K with
  | none => exact h.2
  | some k =>
    obtain ⟨e, he, hk⟩ := FirstExt.key_mem h
    exact nomatch (hp e he).symm.trans hk

/-- the min / max fields of a record against the entries processed so far (the timestamp fields: `TsInv`) -/
def MMInv (p : List Entry) (m : Metric) : Prop :=
  ExtInv (· < ·) p m.minK m.min ∧ ExtInv (fun a b => b < a) p m.maxK m.max

structure TsInv (p : List Entry) (m : Metric) : Prop where
  none_ts : m.lastTs = none → p = [] ∧ m.latest = unavailable
  some_ts : ∀ t, m.lastTs = some t → LastLatest p m.latest t

theorem mmInv_init (n : String) : MMInv [] (initMetric n) := ⟨⟨List.forall_mem_nil _, rfl⟩, ⟨List.forall_mem_nil _, rfl⟩⟩

theorem tsInv_init (n : String) : TsInv [] (initMetric n) := ⟨fun _ => ⟨rfl, rfl⟩, nofun⟩

theorem mmInv_step {p : List Entry} {m : Metric} (e : Entry) (h : MMInv p m) :
    MMInv (p ++ [e]) (updMinMax m e) := by
  unfold updMinMax
  cases hk : e.key with
  | none => exact ⟨h.1.skip hk, h.2.skip hk⟩
  | some k =>
    simp only []
    split
    · rename_i lo hi hlo hhi
      have hmin : FirstExt (· < ·) p m.min lo := by have := h.1; rwa [hlo] at this
      have hmax : FirstExt (fun a b => b < a) p m.max hi := by have := h.2; rwa [hhi] at this
      have hge := hmin.all_ge
      have hle := hmax.all_le
      split
      · -- a new minimum; the maximum stays, since `k < lo ≤ hi`
        rename_i hlt
        obtain ⟨e0, he0, hk0⟩ := hmax.key_mem
        have := hge e0 he0 hi hk0
        refine ⟨FirstExt.snoc_new hk fun e' he' k' hk' => Int.lt_of_lt_of_le hlt (hge e' he' k' hk'), ?_⟩
        rw [hhi]
        exact hmax.snoc_keep hk (by omega)
      split
      · -- a new maximum; the minimum stays
        rename_i hnlt hgt
        refine ⟨?_, FirstExt.snoc_new (lt := fun a b => b < a) hk fun e' he' k' hk' => Int.lt_of_le_of_lt (hle e' he' k' hk') hgt⟩
        rw [hlo]
        exact hmin.snoc_keep hk hnlt
      · rename_i hnlt hngt
        rw [MMInv, hlo, hhi]
        exact ⟨hmin.snoc_keep hk hnlt, hmax.snoc_keep hk hngt⟩
    · -- a bound is missing, so nothing was keyed so far: the first keyed entry sets both
      rename_i hnot
      have hall : ∀ e' ∈ p, e'.key = none := by
        cases h1 : m.minK with
        | none => have := h.1; rw [h1] at this; exact this.1
        | some lo =>
          cases h2 : m.maxK with
          | none => have := h.2; rw [h2] at this; exact this.1
          | some hi => exact absurd h2 (hnot lo hi h1)
      have hnew : ∀ lt : Int → Int → Prop, FirstExt lt (p ++ [e]) e.text k := fun lt =>
        FirstExt.snoc_new hk fun e' he' k' hk' => nomatch (hall e' he').symm.trans hk'
      exact ⟨hnew (· < ·), hnew fun a b => b < a⟩

theorem tsInv_step {p : List Entry} {m : Metric} (e : Entry) (t : Int) (ht : e.ts = some t) (h : TsInv p m) :
    TsInv (p ++ [e]) (updLatest m e t) := by
  unfold updLatest
  split
  · rename_i l hl
    have hlast := h.some_ts l hl
    split
    · rename_i hlt
      refine ⟨fun hn => (nomatch hn.symm.trans hl), fun t0 ht0 => ?_⟩
      cases hl.symm.trans ht0
      obtain ⟨pre, e0, post, hp, hk, hx, h1, h2⟩ := hlast
      refine ⟨pre, e0, post ++ [e], by simp [hp], hk, hx, h1, fun e' he' t' ht' => ?_⟩
      rcases List.mem_append.1 he' with h' | h'
      · exact h2 e' h' t' ht'
      · cases ht.symm.trans (List.mem_singleton.1 h' ▸ ht')
        exact hlt
    · rename_i hnlt
      refine ⟨nofun, fun t0 ht0 => ?_⟩
      cases ht0
      refine ⟨p, e, [], rfl, ht, rfl, fun e' he' t' ht' => ?_, List.forall_mem_nil _⟩
      have := hlast.all_le e' he' t' ht'
      omega
  · rename_i hn
    obtain ⟨rfl, _⟩ := h.none_ts hn
    refine ⟨nofun, fun t0 ht0 => ?_⟩
    cases ht0
    exact ⟨[], e, [], rfl, ht, rfl, List.forall_mem_nil _, List.forall_mem_nil _⟩

theorem inv_step {p : List Entry} {m m' : Metric} {e : Entry} (hu : updMetric m e = some m')
    (h1 : MMInv p m) (h2 : TsInv p m) : MMInv (p ++ [e]) m' ∧ TsInv (p ++ [e]) m' := by
  obtain ⟨t, ht, rfl⟩ := updMetric_eq_some hu
  obtain ⟨_, a, b, c, d⟩ := updLatest_frame (updMinMax m e) e t
  obtain ⟨_, a', b'⟩ := updMinMax_frame m e
  refine ⟨?_, tsInv_step e t ht ⟨?_, ?_⟩⟩
  · rw [MMInv, a, b, c, d]
    exact mmInv_step e h1
  · rw [a', b']
    exact h2.none_ts
  · rw [a', b']
    exact h2.some_ts

theorem inv_runOne {p l : List Entry} {m r : Metric} (hr : runOne m l = some r)
    (h1 : MMInv p m) (h2 : TsInv p m) : MMInv (p ++ l) r ∧ TsInv (p ++ l) r := by
  induction l generalizing p m with
  | nil => rw [← Option.some.inj hr, List.append_nil]; exact ⟨h1, h2⟩
  | cons e es ih =>
    simp only [runOne] at hr
    split at hr
    · obtain ⟨a, b⟩ := inv_step ‹_› h1 h2
      rw [← List.singleton_append, ← List.append_assoc]
      exact ih hr a b
    · cases hr

end Katib.Metrics
