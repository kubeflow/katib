import Katib.Lemmas.List
import Katib.Model.Reconcile
/-!
# Lookups in the object store

`findExp`, `findSug`, `findTrial` are `List.find?` by key and `updExp`, `updSug`, `updTrial` map over the list: their lemmas are
proved once for a list with a key function and then named per kind.
-/
namespace Katib.Ctl
open Katib

theorem key2_ext {a b : Key2} (h1 : a.ns = b.ns) (h2 : a.name = b.name) : a = b := by
  cases a; cases b; simp at h1 h2; simp [h1, h2]

section keyed
variable {α : Type} (key : α → Key2)

theorem find?_key {l : List α} {k : Key2} {a : α} (h : l.find? (fun x => key x = k) = some a) : key a = k := by
  simpa using List.find?_some h

theorem find?_map_upd (l : List α) (k k' : Key2) (f : α → α) (hf : ∀ x, key (f x) = key x) :
    (l.map (fun x => if key x = k' then f x else x)).find? (fun x => key x = k) =
      (l.find? (fun x => key x = k)).map (fun x => if key x = k' then f x else x) := by
  induction l with
  | nil => rfl
  | cons a r ih =>
    simp only [List.map_cons, List.find?_cons]
    have hkey : key (if key a = k' then f a else a) = key a := by split <;> simp [hf]
    by_cases hk : key a = k
    · subst hk
      simp [hkey]
    · simp only [hkey, hk, decide_false]
      exact ih

theorem find?_append_single {l : List α} {k : Key2} (a : α) (h : l.find? (fun x => key x = key a) = none) :
    (l ++ [a]).find? (fun x => key x = k) = if key a = k then some a else l.find? (fun x => key x = k) := by
  simp only [List.find?_append]
  by_cases hk : key a = k
  · subst hk
    simp [h]
  · cases hw : l.find? (fun x => decide (key x = k)) <;> simp [hk]

theorem map_key_upd (l : List α) (k : Key2) (f : α → α) (hf : ∀ x, key (f x) = key x) :
    (l.map (fun x => if key x = k then f x else x)).map key = l.map key := by
  rw [List.map_map]
  apply List.map_congr_left
  intro x _
  simp only [Function.comp]
  split
  · exact hf x
  · rfl

theorem forall_map_upd {P : α → Prop} {l : List α} {k : Key2} {f : α → α} (h : ∀ x ∈ l, P x)
    (hf : ∀ x ∈ l, key x = k → P (f x)) : ∀ x ∈ l.map (fun x => if key x = k then f x else x), P x := by
  intro y hy
  obtain ⟨x, hx, rfl⟩ := List.mem_map.1 hy
  split
  · exact hf x hx ‹_›
  · exact h x hx

theorem find?_of_mem {l : List α} (hnd : (l.map key).Nodup) {a : α} (ha : a ∈ l) : l.find? (fun x => key x = key a) = some a := by
  cases hf : l.find? (fun x => key x = key a) with
  | none => simpa using List.find?_eq_none.1 hf a ha
  | some b => rw [nodup_map_inj hnd (List.mem_of_find?_eq_some hf) ha (find?_key key hf)]

theorem find?_map_upd_forall {P : α → Prop} {l : List α} {k k' : Key2} {f : α → α} (hf : ∀ x, key (f x) = key x)
    (h : ∀ a, l.find? (fun x => key x = k) = some a → P a)
    (hP : ∀ a, l.find? (fun x => key x = k) = some a → key a = k' → P (f a)) :
    ∀ a, (l.map (fun x => if key x = k' then f x else x)).find? (fun x => key x = k) = some a → P a := by
  intro a ha
  rw [find?_map_upd key l k k' f hf] at ha
  obtain ⟨a0, h0, rfl⟩ := Option.map_eq_some_iff.1 ha
  split
  · exact hP a0 h0 ‹_›
  · exact h a0 h0

theorem find?_map_upd_rel {R : α → α → Prop} {l : List α} {k k' : Key2} {f : α → α} (hf : ∀ x, key (f x) = key x)
    (refl : ∀ a, l.find? (fun x => key x = k) = some a → R a a)
    (hR : ∀ a, l.find? (fun x => key x = k) = some a → key a = k' → R a (f a)) :
    ∀ a, l.find? (fun x => key x = k) = some a →
      ∃ b, (l.map (fun x => if key x = k' then f x else x)).find? (fun x => key x = k) = some b ∧ R a b := by
  intro a ha
  rw [find?_map_upd key l k k' f hf, ha]
  refine ⟨_, rfl, ?_⟩
  dsimp only
  split
  · exact hR a ha ‹_›
  · exact refl a ha

theorem find?_isSome_append {l : List α} {k : Key2} (l' : List α) (h : (l.find? (fun x => key x = k)).isSome = true) :
    ((l ++ l').find? (fun x => key x = k)).isSome = true := by
  rw [List.find?_append, Option.isSome_or, h]
  rfl

theorem find?_isSome_filter_ne {l : List α} {k k' : Key2} (hne : k' ≠ k) (h : (l.find? (fun x => key x = k)).isSome = true) :
    ((l.filter (fun x => ¬ key x = k')).find? (fun x => key x = k)).isSome = true := by
  rw [List.find?_isSome] at h ⊢
  obtain ⟨a, ha, hk⟩ := h
  have hk' : key a = k := of_decide_eq_true hk
  exact ⟨a, List.mem_filter.2 ⟨ha, decide_eq_true fun e => hne (e.symm.trans hk')⟩, hk⟩

theorem nodup_append_single {l : List α} (a : α) (hl : (l.map key).Nodup)
    (h : l.find? (fun x => key x = key a) = none) : ((l ++ [a]).map key).Nodup := by
  rw [List.map_append, List.nodup_append]
  refine ⟨hl, by simp, fun x hx y hy e => ?_⟩
  obtain ⟨b, hb, rfl⟩ := List.mem_map.1 hx
  cases List.mem_singleton.1 hy
  simpa [e] using List.find?_eq_none.1 h b hb

end keyed

theorem contains_append_left {l : List Key2} {x : Key2} (l' : List Key2) (h : l.contains x = true) : (l ++ l').contains x = true := by
  rw [List.contains_append, h]
  rfl

theorem contains_filter_ne {l : List Key2} {x y : Key2} (hne : y ≠ x) (h : l.contains x = true) :
    (l.filter (fun z => ¬ z = y)).contains x = true := by
  rw [List.contains_iff_mem] at h ⊢
  exact List.mem_filter.2 ⟨h, decide_eq_true fun e => hne e.symm⟩

theorem findExp_key {w : World} {k : Key2} {e : ExpO} (h : findExp w k = some e) : e.key = k := find?_key ExpO.key h

theorem findExp_mem {w : World} {k : Key2} {e : ExpO} (h : findExp w k = some e) : e ∈ w.exps := List.mem_of_find?_eq_some h

theorem findExp_congr {v h : World} (e : v.exps = h.exps) (k : Key2) : findExp v k = findExp h k := by
  unfold findExp; rw [e]

theorem findExp_updExp (w : World) (k k' : Key2) (f : ExpO → ExpO) (hf : ∀ s, (f s).key = s.key) :
    findExp (updExp w k' f) k = (findExp w k).map (fun s => if s.key = k' then f s else s) :=
  find?_map_upd ExpO.key w.exps k k' f hf

theorem forall_updExp {P : ExpO → Prop} {w : World} {k : Key2} {f : ExpO → ExpO} (h : ∀ e ∈ w.exps, P e)
    (hf : ∀ e ∈ w.exps, e.key = k → P (f e)) : ∀ e ∈ (updExp w k f).exps, P e :=
  forall_map_upd ExpO.key h hf

theorem findSug_key {w : World} {k : Key2} {s : SugO} (h : findSug w k = some s) : s.key = k := find?_key SugO.key h

theorem findSug_congr {v h : World} (e : v.sugs = h.sugs) (k : Key2) : findSug v k = findSug h k := by
  unfold findSug; rw [e]

theorem findSug_updSug (w : World) (k k' : Key2) (f : SugO → SugO) (hf : ∀ s, (f s).key = s.key) :
    findSug (updSug w k' f) k = (findSug w k).map (fun s => if s.key = k' then f s else s) :=
  find?_map_upd SugO.key w.sugs k k' f hf

theorem findSug_append_none {w : World} {k : Key2} (s : SugO) (h : findSug w s.key = none) :
    findSug { w with sugs := w.sugs ++ [s] } k = if s.key = k then some s else findSug w k :=
  find?_append_single SugO.key s h

theorem findTrial_key {w : World} {k : Key2} {t : TrialO} (h : findTrial w k = some t) : t.key = k := find?_key TrialO.key h

theorem findTrial_mem {w : World} {k : Key2} {t : TrialO} (h : findTrial w k = some t) : t ∈ w.trials :=
  List.mem_of_find?_eq_some h

theorem findTrial_congr {v h : World} (e : v.trials = h.trials) (k : Key2) : findTrial v k = findTrial h k := by
  unfold findTrial; rw [e]

theorem findJob_congr {v h : World} (e : v.jobs = h.jobs) (k : Key2) : findJob v k = findJob h k := by
  unfold findJob; rw [e]

theorem forall_updTrial {P : TrialO → Prop} {w : World} {k : Key2} {f : TrialO → TrialO} (h : ∀ t ∈ w.trials, P t)
    (hf : ∀ t ∈ w.trials, t.key = k → P (f t)) : ∀ t ∈ (updTrial w k f).trials, P t :=
  forall_map_upd TrialO.key h hf

theorem findTrial_updTrial (w : World) (k k' : Key2) (f : TrialO → TrialO) (hf : ∀ s, (f s).key = s.key) :
    findTrial (updTrial w k' f) k = (findTrial w k).map (fun s => if s.key = k' then f s else s) :=
  find?_map_upd TrialO.key w.trials k k' f hf

theorem findTrial_append_none {w : World} {k : Key2} (t : TrialO) (h : findTrial w t.key = none) :
    findTrial { w with trials := w.trials ++ [t] } k = if t.key = k then some t else findTrial w k :=
  find?_append_single TrialO.key t h

/-! ### `List` calls answer in key order: the sorts are permutations -/

theorem insertByName_perm (t : TrialO) (l : List TrialO) : (insertByName t l).Perm (t :: l) := by
  induction l with
  | nil => exact .refl _
  | cons a r ih =>
    simp only [insertByName]
    split
    · exact .refl _
    · exact (ih.cons a).trans (.swap t a r)

theorem sortByName_perm (l : List TrialO) : (sortByName l).Perm l := by
  induction l with
  | nil => exact .refl _
  | cons a r ih => exact (insertByName_perm a (sortByName r)).trans (ih.cons a)

theorem insertS_perm (x : String) (l : List String) : (insertS x l).Perm (x :: l) := by
  induction l with
  | nil => exact .refl _
  | cons a r ih =>
    simp only [insertS]
    split
    · exact .refl _
    · exact (ih.cons a).trans (.swap x a r)

theorem sortS_perm (l : List String) : (sortS l).Perm l := by
  induction l with
  | nil => exact .refl _
  | cons a r ih => exact (insertS_perm a (sortS r)).trans (ih.cons a)

theorem mem_trialsOf {w : World} {k : Key2} {t : TrialO} : t ∈ trialsOf w k ↔ t ∈ w.trials ∧ t.key.ns = k.ns ∧ t.exp = k.name := by
  unfold trialsOf
  rw [(sortByName_perm _).mem_iff, List.mem_filter]
  simp

end Katib.Ctl
