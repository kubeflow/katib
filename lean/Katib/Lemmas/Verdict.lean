import Katib.Lemmas.ExpPlan
import Katib.Lemmas.Sched
import Katib.Lemmas.SugPlan
import Katib.Props.C06
/-!
# World-level invariants for trial verdicts (towards C06 over whole schedules)

`TInv w`: no trial is marked deleted, no trial is both Succeeded and EarlyStopped.
`TPast h c`: every trial of the earlier store still exists under the same Experiment, its `resourceVersion` did not decrease, an equal
`resourceVersion` means an identical object, and every condition other than Running that was True is still True.
-/
namespace Katib.Ctl
open Katib Katib.Exp

def TInv (w : World) : Prop :=
  ∀ t ∈ w.trials, t.deleted = false ∧ (tHas t .succeeded = true → tHas t .earlyStopped = false)

def TPast (h c : World) : Prop :=
  ∀ k th, findTrial h k = some th → ∃ tc, findTrial c k = some tc ∧ th.rv ≤ tc.rv ∧ (th.rv = tc.rv → th = tc) ∧
    (th.exp = tc.exp ∧ ∀ ct, ct ≠ TCT.running → tHas th ct = true → tHas tc ct = true)

theorem TPast.refl (w : World) : TPast w w :=
  fun _ th h => ⟨th, h, Nat.le_refl _, fun _ => rfl, rfl, fun _ _ hh => hh⟩

theorem TPast.trans {a b c : World} (h1 : TPast a b) (h2 : TPast b c) : TPast a c := by
  intro k ta ha
  obtain ⟨tb, hb, r1, e1, m1⟩ := h1 k ta ha
  obtain ⟨tc, hc, r2, e2, m2⟩ := h2 k tb hb
  refine ⟨tc, hc, Nat.le_trans r1 r2, ?_, m1.1.trans m2.1, fun ct hne hh => m2.2 ct hne (m1.2 ct hne hh)⟩
  intro e
  have h3 : ta.rv = tb.rv := by omega
  have h4 : tb.rv = tc.rv := by omega
  rw [e1 h3, e2 h4]

theorem tCompleted_mono {a b : TrialO} (h : ∀ ct, ct ≠ TCT.running → tHas a ct = true → tHas b ct = true) (ha : tCompleted a = true) :
    tCompleted b = true := by
  unfold tCompleted at ha ⊢
  simp only [Bool.or_eq_true] at ha ⊢
  rcases ha with (((h1 | h1) | h1) | h1) | h1
  · exact Or.inl (Or.inl (Or.inl (Or.inl (h _ (by decide) h1))))
  · exact Or.inl (Or.inl (Or.inl (Or.inr (h _ (by decide) h1))))
  · exact Or.inl (Or.inl (Or.inr (h _ (by decide) h1)))
  · exact Or.inl (Or.inr (h _ (by decide) h1))
  · exact Or.inr (h _ (by decide) h1)

theorem TInv.frame {w w' : World} (hW : TInv w) (ht : w'.trials = w.trials) : TInv w' ∧ TPast w w' := by
  refine ⟨by unfold TInv; rw [ht]; exact hW, ?_⟩
  intro k th h
  exact ⟨th, (findTrial_congr ht k).trans h, Nat.le_refl _, fun _ => rfl, rfl, fun _ _ hh => hh⟩

/-- what the plans guarantee about their Trial calls, in terms of the store `hT` the Trial was read from -/
def TJust (hT : World) : Call → Prop
  | .trialStatus k rv st => ∃ tv, findTrial hT k = some tv ∧ rv = tv.rv ∧
      (∀ ct, ct ≠ TCT.running → tHas tv ct = true → Cond.has st.conds ct = true) ∧
      (Cond.has st.conds .succeeded = true → Cond.has st.conds .earlyStopped = true → tHas tv .succeeded = true ∧ tHas tv .earlyStopped = true)
  | .trialCreate t => t.deleted = false ∧ t.st = {}
  | .trialDelete _ => False
  | _ => True

theorem tpast_updTrial {w : World} (k' : Key2) {f : TrialO → TrialO} (hkey : ∀ t, (f t).key = t.key)
    (hf : ∀ t, findTrial w k' = some t →
      t.rv < (f t).rv ∧ t.exp = (f t).exp ∧ ∀ ct, ct ≠ TCT.running → tHas t ct = true → tHas (f t) ct = true) :
    TPast w (updTrial w k' f) := fun k =>
  find?_map_upd_rel TrialO.key hkey (fun _ _ => ⟨Nat.le_refl _, fun _ => rfl, rfl, fun _ _ x => x⟩) fun t ht hk' => by
    cases (findTrial_key ht).symm.trans hk'
    obtain ⟨a, b⟩ := hf t ht
    exact ⟨Nat.le_of_lt a, fun e => absurd e (Nat.ne_of_lt a), b⟩

theorem apply_pres_trial {hT w w' : World} {c : Call} (hW : TInv w) (hP : TPast hT w) (hJ : TJust hT c)
    (h : applyCall w c = .ok w') : TInv w' ∧ TPast w w' := by
  have he := applyCall_ok h
  cases c with
  | trialCreate t =>
    obtain ⟨hnone, rfl⟩ := he
    obtain ⟨hd, hst⟩ := hJ
    refine ⟨?_, ?_⟩
    · intro t' ht'
      rcases List.mem_append.1 ht' with ht' | ht'
      · exact hW t' ht'
      · simp only [List.mem_singleton] at ht'
        subst ht'
        refine ⟨hd, ?_⟩
        intro hs
        unfold tHas at hs; rw [hst] at hs; simp [Cond.has, Cond.get] at hs
    · intro k th hh
      rw [findTrial_append_none t hnone]
      by_cases hk : t.key = k
      · rw [hk] at hnone; rw [hnone] at hh; cases hh
      · simp only [hk, if_false]
        exact TPast.refl w k th hh
  | trialUpdateFin k' rv fin =>
    obtain ⟨t0, ht0, _, ⟨hdel, _, _⟩ | ⟨_, rfl⟩⟩ := he
    · exact absurd (hW t0 (findTrial_mem ht0)).1 (by rw [hdel]; simp)
    · exact ⟨forall_updTrial hW (fun t ht _ => hW t ht),
        tpast_updTrial k' (fun _ => rfl) (fun _ _ => ⟨Nat.lt_succ_self _, rfl, fun _ _ x => x⟩)⟩
  | trialStatus k' rv st =>
    obtain ⟨t0, ht0, hrv', rfl⟩ := he
    obtain ⟨tv, htv, hrvv, hkeep, hexcl⟩ := hJ
    -- the write was computed from a copy of `hT` with the live resourceVersion: that copy is the live object
    obtain ⟨tc, htc, _, hsame, _⟩ := hP k' tv htv
    cases ht0.symm.trans htc
    cases hsame (hrvv.symm.trans hrv'.symm)
    refine ⟨forall_updTrial hW (fun t1 h1 _ => ⟨(hW t1 h1).1, fun hs => ?_⟩),
      tpast_updTrial k' (fun _ => rfl) (fun t ht => by cases ht0.symm.trans ht; exact ⟨Nat.lt_succ_self _, rfl, hkeep⟩)⟩
    -- the written status: Succeeded and EarlyStopped together only if the trial read had both — excluded
    cases hes : Cond.has st.conds .earlyStopped with
    | false => exact hes
    | true =>
      have hboth := hexcl hs hes
      have := (hW _ (findTrial_mem ht0)).2 hboth.1
      rw [hboth.2] at this; cases this
  | trialDelete k' => exact absurd hJ id
  | _ => exact hW.frame ((applyCall_frame h).trials nofun)

theorem exec_verdict {hT w0 : World} (f : Faults) (p : Prog) (hp : p.All (TJust hT)) (hW : TInv w0) (hP : TPast hT w0) :
    TInv (exec f p w0 0 []).w ∧ TPast w0 (exec f p w0 0 []).w :=
  exec_rel TPast.refl TPast.trans (fun hI hR hc h => apply_pres_trial hI (TPast.trans hP hR) hc h) f hp hW

/-! ### the plans' Trial calls are justified -/

/-- the trial plan writes only the status of the Trial it read, with the `resourceVersion` it read, never adds
    EarlyStopped, and neither creates nor deletes Trials -/
def TrialWrite (t : TrialO) : Call → Prop
  | .trialStatus k rv st => k = t.key ∧ rv = t.rv ∧ (Cond.has st.conds .earlyStopped = true → Cond.has t.st.conds .earlyStopped = true)
  | .trialCreate _ => False
  | .trialDelete _ => False
  | _ => True

theorem TrialMarks.earlyStopped {st st' : TrialSt} {now : Nat} {js : JobCond} (h : TrialMarks st now js st') :
    Cond.has st'.conds .earlyStopped = Cond.has st.conds .earlyStopped := by
  cases h with
  | succeeded _ _ _ => exact has_tMark_other (by decide) (by decide)
  | unavailable _ _ => exact has_tMark_other (by decide) (by decide)
  | failed _ _ => exact has_tMark_other (by decide) (by decide)
  | running _ _ => exact Cond.has_set_other (by decide)
  | kept => rfl

theorem TrialWrites.earlyStopped {v : World} {t : TrialO} {now : Nat} {st : TrialSt} (h : TrialWrites v t now st) :
    Cond.has st.conds .earlyStopped = Cond.has t.st.conds .earlyStopped := by
  cases h with
  | created _ _ => exact Cond.has_set_other (by decide)
  | updated _ hu hm => rw [hm.earlyStopped, hu.obs.conds]

theorem trialPlan_write (v : World) (k : Key2) (now : Nat) (t : TrialO) (ht : findTrial v k = some t) : (trialPlan v k now).All (TrialWrite t) :=
  (trialPlan_spec now ht).mono fun c hc => by
    cases hc with
    | status hw _ => exact ⟨rfl, rfl, fun h => hw.earlyStopped.symm.trans h⟩
    | _ => trivial

theorem trialPlan_tjust (v hT : World) (k : Key2) (now : Nat) (htr : v.trials = hT.trials) (hI : TInv hT) :
    (trialPlan v k now).All (TJust hT) := by
  cases ht : findTrial v k with
  | none => rw [trialPlan_none now ht]; trivial
  | some t =>
    have hmem : t ∈ hT.trials := by rw [← htr]; exact findTrial_mem ht
    have hexcl := (hI t hmem).2
    refine (Prog.All.and (trialPlan_write v k now t ht) (C06_verdict_guard v k now t ht hexcl)).mono ?_
    intro c ⟨hw, hg⟩
    cases c with
    | trialStatus k' rv st =>
      obtain ⟨h1, h2, h3⟩ := hw
      obtain ⟨g1, g2, _, _⟩ := hg
      have hkey : t.key = k := findTrial_key ht
      refine ⟨t, by rw [← findTrial_congr htr, h1, hkey]; exact ht, h2, g1, ?_⟩
      intro hs hes
      have htes : tHas t .earlyStopped = true := h3 hes
      cases hts : Cond.has t.st.conds .succeeded with
      | true => exact ⟨hts, htes⟩
      | false =>
        have := (g2 hs hts).2.2.2.2.2
        rw [hes] at this; cases this
    | trialCreate _ => exact absurd hw id
    | trialDelete _ => exact absurd hw id
    | _ => trivial

theorem expPlan_tjust (v hT : World) (k : Key2) (now : Nat) : (expPlan v k now).All (TJust hT) :=
  expPlan_all fun _ _ _ hc => by
    cases hc with
    | trialCreate _ _ _ _ _ _ => exact ⟨rfl, rfl⟩
    | _ => trivial

theorem sugPlan_tjust (v hT : World) (k : Key2) (env : SugEnv) (now : Nat) : (sugPlan v k env now).All (TJust hT) :=
  sugPlan_all fun _ _ _ hc => by cases hc <;> trivial

theorem Plan.tjust {v hT : World} {now : Nat} {p : Prog} (hp : Plan v now p) (htr : v.trials = hT.trials) (hI : TInv hT) :
    p.All (TJust hT) := by
  cases hp with
  | exp k => exact expPlan_tjust v hT k now
  | sug k env => exact sugPlan_tjust v hT k env now
  | trial k => exact trialPlan_tjust v hT k now htr hI

end Katib.Ctl
