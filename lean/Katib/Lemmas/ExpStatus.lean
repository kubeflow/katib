import Katib.Model.ExpStatus
import Katib.Lemmas.Cond
/-! Lemmas on the experiment `Mark*` helpers. -/
namespace Katib.Exp
open Katib

theorem has_runningFalse_running (cs : List ECond) (now : Nat) : Cond.has (runningFalse cs now) .running = false := by
  unfold runningFalse
  cases h : Cond.get cs .running with
  | some c => exact Cond.has_set_self
  | none => unfold Cond.has; rw [h]

theorem has_runningFalse_other {cs : List ECond} {now : Nat} {t : CT} (h : t ≠ .running) :
    Cond.has (runningFalse cs now) t = Cond.has cs t := by
  unfold runningFalse
  cases Cond.get cs .running with
  | some c => exact Cond.has_set_other h
  | none => rfl

theorem reasonOf_runningFalse_other (cs : List ECond) (now : Nat) {t : CT} (h : t ≠ .running) :
    Cond.reasonOf (runningFalse cs now) t = Cond.reasonOf cs t := by
  unfold runningFalse
  cases Cond.get cs .running with
  | some c => exact Cond.reasonOf_set_other h
  | none => rfl

theorem has_markSucceeded_other {cs : List ECond} {r : String} {now : Nat} {t : CT} (h1 : t ≠ .succeeded) (h2 : t ≠ .running) :
    Cond.has (markSucceeded cs r now) t = Cond.has cs t := by
  unfold markSucceeded
  rw [Cond.has_set_other h1, has_runningFalse_other h2]

theorem has_markFailed_other {cs : List ECond} {r : String} {now : Nat} {t : CT} (h1 : t ≠ .failed) (h2 : t ≠ .running) :
    Cond.has (markFailed cs r now) t = Cond.has cs t := by
  unfold markFailed
  rw [Cond.has_set_other h1, has_runningFalse_other h2]

theorem has_markRunning_other {cs : List ECond} {now : Nat} {t : CT} (h : t ≠ .running) :
    Cond.has (markRunning cs now) t = Cond.has cs t :=
  Cond.has_set_other h

theorem markSucceeded_spec (cs : List ECond) (r : String) (now : Nat) :
    isSucceeded (markSucceeded cs r now) = true ∧
    isFailed (markSucceeded cs r now) = isFailed cs ∧
    Cond.has (markSucceeded cs r now) .running = false ∧
    Cond.reasonOf (markSucceeded cs r now) .succeeded = some r := by
  refine ⟨Cond.has_set_self, has_markSucceeded_other (by decide) (by decide), ?_, Cond.reasonOf_set_self⟩
  unfold markSucceeded
  rw [Cond.has_set_other (by decide), has_runningFalse_running]

theorem markFailed_spec (cs : List ECond) (r : String) (now : Nat) :
    isFailed (markFailed cs r now) = true ∧
    isSucceeded (markFailed cs r now) = isSucceeded cs ∧
    Cond.has (markFailed cs r now) .running = false ∧
    Cond.reasonOf (markFailed cs r now) .failed = some r := by
  refine ⟨Cond.has_set_self, has_markFailed_other (by decide) (by decide), ?_, Cond.reasonOf_set_self⟩
  unfold markFailed
  rw [Cond.has_set_other (by decide), has_runningFalse_running]

theorem markRunning_spec (cs : List ECond) (now : Nat) :
    isSucceeded (markRunning cs now) = isSucceeded cs ∧ isFailed (markRunning cs now) = isFailed cs ∧
    Cond.has (markRunning cs now) .running = true :=
  ⟨has_markRunning_other (by decide), has_markRunning_other (by decide), Cond.has_set_self⟩

end Katib.Exp
