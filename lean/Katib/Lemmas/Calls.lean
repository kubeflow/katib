import Katib.Lemmas.Store
/-!
# What a call that succeeded has done

`applyCall_ok` inverts `applyCall w c = .ok w'` once for all 26 calls: the object the call addressed was found, its
`resourceVersion` matched, and `w'` is the store with that one object written.  `Call.part` names the part of the store a call
writes; `applyCall_frame` says that every other part is unchanged.  For each part the lemmas at the end say what can happen to it
(`applyCall_exps`, `applyCall_findSug`, `applyCall_trials`, the `*_cases` lemmas): a proof that a call preserves an invariant says
why the writes to the part the invariant speaks of keep it, and the rest is the frame.
-/
namespace Katib.Ctl
open Katib

/-- what `applyCall w c = .ok w'` amounts to -/
def Call.effect (w w' : World) : Call → Prop
  | .expUpdateFin k rv fin => ∃ e, findExp w k = some e ∧ e.rv = rv ∧ w' = updExp w k (fun e => { e with fin := fin, rv := e.rv + 1 })
  | .expStatus k rv st => ∃ e, findExp w k = some e ∧ e.rv = rv ∧ w' = updExp w k (fun e => { e with st := st, rv := e.rv + 1 })
  | .sugCreate s => findSug w s.key = none ∧ w' = { w with sugs := w.sugs ++ [s] }
  | .sugUpdateReq k rv req =>
    ∃ s, findSug w k = some s ∧ s.rv = rv ∧ w' = updSug w k (fun s => { s with requests := req, rv := s.rv + 1 })
  | .sugStatus k rv st => ∃ s, findSug w k = some s ∧ s.rv = rv ∧ w' = updSug w k (fun s => { s with st := st, rv := s.rv + 1 })
  | .trialCreate t => findTrial w t.key = none ∧ w' = { w with trials := w.trials ++ [t] }
  | .trialUpdateFin k rv fin =>
    ∃ t, findTrial w k = some t ∧ t.rv = rv ∧
      ((t.deleted = true ∧ fin = false ∧ w' = { w with trials := w.trials.filter (fun t => ¬ t.key = k) }) ∨
       (¬ (t.deleted = true ∧ fin = false) ∧ w' = updTrial w k (fun t => { t with fin := fin, rv := t.rv + 1 })))
  | .trialStatus k rv st => ∃ t, findTrial w k = some t ∧ t.rv = rv ∧ w' = updTrial w k (fun t => { t with st := st, rv := t.rv + 1 })
  | .trialDelete k =>
    ∃ t, findTrial w k = some t ∧
      ((t.fin = true ∧ w' = updTrial w k (fun t => { t with deleted := true, rv := t.rv + 1 })) ∨
       (t.fin = false ∧ w' = { w with trials := w.trials.filter (fun t => ¬ t.key = k) }))
  | .jobCreate k => findJob w k = none ∧ w' = { w with jobs := w.jobs ++ [{ key := k }] }
  | .jobDelete k => (findJob w k).isSome = true ∧ w' = { w with jobs := w.jobs.filter (fun j => ¬ j.key = k) }
  | .deployCreate k => findDeploy w k = none ∧ w' = { w with deploys := w.deploys ++ [{ key := k }] }
  | .deployDelete k => (findDeploy w k).isSome = true ∧ w' = { w with deploys := w.deploys.filter (fun d => ¬ d.key = k) }
  | .svcCreate k => w.svcs.contains k = false ∧ w' = { w with svcs := w.svcs ++ [k] }
  | .svcDelete k => w.svcs.contains k = true ∧ w' = { w with svcs := w.svcs.filter (fun x => ¬ x = k) }
  | .pvcCreate k => w.pvcs.contains k = false ∧ w' = { w with pvcs := w.pvcs ++ [k] }
  | .saCreate k => w.sas.contains k = false ∧ w' = { w with sas := w.sas ++ [k] }
  | .roleCreate k => w.roles.contains k = false ∧ w' = { w with roles := w.roles ++ [k] }
  | .rbCreate k => w.rbs.contains k = false ∧ w' = { w with rbs := w.rbs ++ [k] }
  | .rpcValidate _ => w' = w
  | .rpcValidateES => w' = w
  | .rpcGetSuggestions _ _ _ _ consume ok => ok = true ∧ w' = { w with algoN := w.algoN + consume }
  | .rpcGetRules _ ok => ok = true ∧ w' = w
  | .dbGet _ => w' = w
  | .dbDelete t => w' = { w with db := w.db.filter (fun p => ¬ p.1 = t) }
  | .dbReport t e =>
    (w.db.any (fun p => p.1 = t) = true ∧ w' = { w with db := w.db.map (fun p => if p.1 = t then (p.1, p.2 ++ [e]) else p) }) ∨
    (w.db.any (fun p => p.1 = t) = false ∧ w' = { w with db := w.db ++ [(t, [e])] })

theorem createKey_ok {l : List Key2} {k : Key2} {f : List Key2 → World} {w' : World} (h : (createKey l k).map f = .ok w') :
    l.contains k = false ∧ w' = f (l ++ [k]) := by
  unfold createKey at h
  split at h
  · cases h
  · rename_i hc; cases h; exact ⟨by simpa using hc, rfl⟩

theorem applyCall_ok {w w' : World} {c : Call} (h : applyCall w c = .ok w') : c.effect w w' := by
  cases c <;> simp only [applyCall] at h <;> simp only [Call.effect]
  case expUpdateFin k rv _ | expStatus k rv _ | sugUpdateReq k rv _ | sugStatus k rv _ | trialStatus k rv _ =>
    split at h
    · cases h
    · rename_i o ho; split at h <;> cases h; exact ⟨o, ho, by simpa using ‹¬ o.rv ≠ rv›, rfl⟩
  case sugCreate s => split at h <;> cases h; exact ⟨‹_›, rfl⟩
  case trialCreate t => split at h <;> cases h; exact ⟨‹_›, rfl⟩
  case trialUpdateFin k rv fin =>
    split at h
    · cases h
    · rename_i t ht
      split at h
      · cases h
      · rename_i hrv
        split at h <;> cases h
        · rename_i hd; exact ⟨t, ht, by simpa using hrv, Or.inl ⟨hd.1, by simpa using hd.2, rfl⟩⟩
        · rename_i hd; exact ⟨t, ht, by simpa using hrv, Or.inr ⟨by simpa using hd, rfl⟩⟩
  case trialDelete k =>
    split at h
    · cases h
    · rename_i t ht
      split at h <;> cases h
      · exact ⟨t, ht, Or.inl ⟨‹_›, rfl⟩⟩
      · exact ⟨t, ht, Or.inr ⟨by simpa using ‹¬ t.fin = true›, rfl⟩⟩
  case jobCreate k => split at h <;> cases h; exact ⟨‹_›, rfl⟩
  case jobDelete k => split at h <;> cases h; exact ⟨by simp [*], rfl⟩
  case deployCreate k => split at h <;> cases h; exact ⟨‹_›, rfl⟩
  case deployDelete k => split at h <;> cases h; exact ⟨by simp [*], rfl⟩
  case svcCreate k => exact createKey_ok h
  case svcDelete k => split at h <;> cases h; exact ⟨‹_›, rfl⟩
  case pvcCreate k | saCreate k | roleCreate k | rbCreate k => exact createKey_ok h
  case rpcValidate e => cases h; rfl
  case rpcValidateES => cases h; rfl
  case rpcGetSuggestions e cur total ts consume ok => split at h <;> cases h; exact ⟨‹_›, rfl⟩
  case rpcGetRules e ok => split at h <;> cases h; exact ⟨‹_›, rfl⟩
  case dbGet t => cases h; rfl
  case dbDelete t => cases h; rfl
  case dbReport t e =>
    split at h <;> cases h
    · exact Or.inl ⟨‹_›, rfl⟩
    · exact Or.inr ⟨Bool.eq_false_iff.2 ‹_›, rfl⟩

inductive Part | exps | sugs | trials | jobs | infra | algo | db | none
  deriving DecidableEq

def Call.part : Call → Part
  | .expUpdateFin _ _ _ | .expStatus _ _ _ => .exps
  | .sugCreate _ | .sugUpdateReq _ _ _ | .sugStatus _ _ _ => .sugs
  | .trialCreate _ | .trialUpdateFin _ _ _ | .trialStatus _ _ _ | .trialDelete _ => .trials
  | .jobCreate _ | .jobDelete _ => .jobs
  | .deployCreate _ | .deployDelete _ | .svcCreate _ | .svcDelete _ | .pvcCreate _ | .saCreate _ | .roleCreate _ | .rbCreate _ => .infra
  | .rpcGetSuggestions _ _ _ _ _ _ => .algo
  | .dbDelete _ | .dbReport _ _ => .db
  | .rpcValidate _ | .rpcValidateES | .rpcGetRules _ _ | .dbGet _ => .none

/-- `w'` is `w` with at most the part `p` rewritten -/
def Frame : Part → World → World → Prop
  | .exps, w, w' => w' = { w with exps := w'.exps }
  | .sugs, w, w' => w' = { w with sugs := w'.sugs }
  | .trials, w, w' => w' = { w with trials := w'.trials }
  | .jobs, w, w' => w' = { w with jobs := w'.jobs }
  | .infra, w, w' =>
    w' = { w with deploys := w'.deploys, svcs := w'.svcs, pvcs := w'.pvcs, sas := w'.sas, roles := w'.roles, rbs := w'.rbs }
  | .algo, w, w' => w' = { w with algoN := w'.algoN }
  | .db, w, w' => w' = { w with db := w'.db }
  | .none, w, w' => w' = w

section
variable {p : Part} {w w' : World} (h : Frame p w w')
include h
theorem Frame.exps (hp : p ≠ .exps) : w'.exps = w.exps := by
  cases p with
  | exps => exact absurd rfl hp
  | _ => rw [h]
theorem Frame.sugs (hp : p ≠ .sugs) : w'.sugs = w.sugs := by
  cases p with
  | sugs => exact absurd rfl hp
  | _ => rw [h]
theorem Frame.trials (hp : p ≠ .trials) : w'.trials = w.trials := by
  cases p with
  | trials => exact absurd rfl hp
  | _ => rw [h]
theorem Frame.jobs (hp : p ≠ .jobs) : w'.jobs = w.jobs := by
  cases p with
  | jobs => exact absurd rfl hp
  | _ => rw [h]
theorem Frame.deploys (hp : p ≠ .infra) : w'.deploys = w.deploys := by
  cases p with
  | infra => exact absurd rfl hp
  | _ => rw [h]
theorem Frame.svcs (hp : p ≠ .infra) : w'.svcs = w.svcs := by
  cases p with
  | infra => exact absurd rfl hp
  | _ => rw [h]
theorem Frame.pvcs (hp : p ≠ .infra) : w'.pvcs = w.pvcs := by
  cases p with
  | infra => exact absurd rfl hp
  | _ => rw [h]
theorem Frame.algoN (hp : p ≠ .algo) : w'.algoN = w.algoN := by
  cases p with
  | algo => exact absurd rfl hp
  | _ => rw [h]
theorem Frame.db (hp : p ≠ .db) : w'.db = w.db := by
  cases p with
  | db => exact absurd rfl hp
  | _ => rw [h]
end

theorem applyCall_frame {w w' : World} {c : Call} (h : applyCall w c = .ok w') : Frame c.part w w' := by
  have he := applyCall_ok h
  cases c with
  | expUpdateFin _ _ _ | expStatus _ _ _ | sugUpdateReq _ _ _ | sugStatus _ _ _ | trialStatus _ _ _ =>
    obtain ⟨_, _, _, rfl⟩ := he; rfl
  | sugCreate _ | trialCreate _ | jobCreate _ | jobDelete _ | deployCreate _ | deployDelete _ | svcCreate _ | svcDelete _ | pvcCreate _
  | saCreate _ | roleCreate _ | rbCreate _ | rpcGetSuggestions _ _ _ _ _ _ | rpcGetRules _ _ =>
    obtain ⟨_, rfl⟩ := he; rfl
  | trialUpdateFin _ _ _ => obtain ⟨_, _, _, ⟨_, _, rfl⟩ | ⟨_, rfl⟩⟩ := he <;> rfl
  | trialDelete _ => obtain ⟨_, _, ⟨_, rfl⟩ | ⟨_, rfl⟩⟩ := he <;> rfl
  | rpcValidate _ | rpcValidateES | dbGet _ | dbDelete _ => cases he; rfl
  | dbReport _ _ => obtain ⟨_, rfl⟩ | ⟨_, rfl⟩ := he <;> rfl

theorem applyCall_exps_cases {w w' : World} {c : Call} (h : applyCall w c = .ok w') :
    w'.exps = w.exps ∨
    (∃ k rv st e, c = .expStatus k rv st ∧ findExp w k = some e ∧ e.rv = rv ∧
      w' = updExp w k (fun e => { e with st := st, rv := e.rv + 1 })) ∨
    (∃ k rv fin e, c = .expUpdateFin k rv fin ∧ findExp w k = some e ∧ e.rv = rv ∧
      w' = updExp w k (fun e => { e with fin := fin, rv := e.rv + 1 })) := by
  by_cases hp : c.part = .exps
  · have he := applyCall_ok h
    cases c with
    | expStatus k rv st => obtain ⟨e, h1, h2, h3⟩ := he; exact Or.inr (Or.inl ⟨k, rv, st, e, rfl, h1, h2, h3⟩)
    | expUpdateFin k rv fin => obtain ⟨e, h1, h2, h3⟩ := he; exact Or.inr (Or.inr ⟨k, rv, fin, e, rfl, h1, h2, h3⟩)
    | _ => cases hp
  · exact Or.inl ((applyCall_frame h).exps hp)

theorem applyCall_exps {P : ExpO → Prop} {w w' : World} {c : Call} (h : applyCall w c = .ok w') (hP : ∀ e ∈ w.exps, P e)
    (hst : ∀ {k rv st}, c = .expStatus k rv st → ∀ e, P e → e.key = k → P { e with st := st, rv := e.rv + 1 })
    (hfin : ∀ {k rv fin}, c = .expUpdateFin k rv fin → ∀ e, P e → e.key = k → P { e with fin := fin, rv := e.rv + 1 }) :
    ∀ e ∈ w'.exps, P e := by
  rcases applyCall_exps_cases h with hfr | ⟨_, _, _, _, hc, _, _, rfl⟩ | ⟨_, _, _, _, hc, _, _, rfl⟩
  · rw [hfr]; exact hP
  · exact forall_updExp hP (fun e he => hst hc e (hP e he))
  · exact forall_updExp hP (fun e he => hfin hc e (hP e he))

theorem applyCall_sugs_cases {w w' : World} {c : Call} (h : applyCall w c = .ok w') :
    w'.sugs = w.sugs ∨
    (∃ s, c = .sugCreate s ∧ findSug w s.key = none ∧ w' = { w with sugs := w.sugs ++ [s] }) ∨
    (∃ k rv req s, c = .sugUpdateReq k rv req ∧ findSug w k = some s ∧ s.rv = rv ∧
      w' = updSug w k (fun s => { s with requests := req, rv := s.rv + 1 })) ∨
    (∃ k rv st s, c = .sugStatus k rv st ∧ findSug w k = some s ∧ s.rv = rv ∧
      w' = updSug w k (fun s => { s with st := st, rv := s.rv + 1 })) := by
  by_cases hp : c.part = .sugs
  · have he := applyCall_ok h
    cases c with
    | sugCreate s => obtain ⟨h1, h2⟩ := he; exact Or.inr (Or.inl ⟨s, rfl, h1, h2⟩)
    | sugUpdateReq k rv req => obtain ⟨s, h1, h2, h3⟩ := he; exact Or.inr (Or.inr (Or.inl ⟨k, rv, req, s, rfl, h1, h2, h3⟩))
    | sugStatus k rv st => obtain ⟨s, h1, h2, h3⟩ := he; exact Or.inr (Or.inr (Or.inr ⟨k, rv, st, s, rfl, h1, h2, h3⟩))
    | _ => cases hp
  · exact Or.inl ((applyCall_frame h).sugs hp)

theorem applyCall_findSug {P : SugO → Prop} {k : Key2} {w w' : World} {c : Call} (h : applyCall w c = .ok w')
    (hP : ∀ s, findSug w k = some s → P s) (hnew : ∀ {s}, c = .sugCreate s → s.key = k → P s)
    (hreq : ∀ {rv req}, c = .sugUpdateReq k rv req → ∀ s, findSug w k = some s → P { s with requests := req, rv := s.rv + 1 })
    (hst : ∀ {rv st}, c = .sugStatus k rv st → ∀ s, findSug w k = some s → P { s with st := st, rv := s.rv + 1 }) :
    ∀ s, findSug w' k = some s → P s := by
  rcases applyCall_sugs_cases h with hfr | ⟨s', hc, hnone, rfl⟩ | ⟨k', _, _, _, hc, _, _, rfl⟩ | ⟨k', _, _, _, hc, _, _, rfl⟩
  · rw [findSug_congr hfr]
    exact hP
  · intro s hs
    rw [findSug_append_none s' hnone] at hs
    split at hs
    · cases hs
      exact hnew hc ‹_›
    · exact hP s hs
  · exact find?_map_upd_forall SugO.key (fun _ => rfl) hP fun s hs hk => hreq (hk.symm.trans (findSug_key hs) ▸ hc) s hs
  · exact find?_map_upd_forall SugO.key (fun _ => rfl) hP fun s hs hk => hst (hk.symm.trans (findSug_key hs) ▸ hc) s hs

theorem applyCall_trials {P : TrialO → Prop} {w w' : World} {c : Call} (h : applyCall w c = .ok w') (hP : ∀ t ∈ w.trials, P t)
    (hnew : ∀ {t}, c = .trialCreate t → P t)
    (hst : ∀ {k rv st}, c = .trialStatus k rv st → ∀ t, P t → t.key = k → P { t with st := st, rv := t.rv + 1 })
    (hfin : ∀ {k rv fin}, c = .trialUpdateFin k rv fin → ∀ t, P t → t.key = k → P { t with fin := fin, rv := t.rv + 1 })
    (hdel : ∀ {k}, c = .trialDelete k → ∀ t, P t → t.key = k → P { t with deleted := true, rv := t.rv + 1 }) :
    ∀ t ∈ w'.trials, P t := by
  have filter : ∀ p : TrialO → Bool, ∀ t ∈ w.trials.filter p, P t := fun p t ht => hP t (List.mem_filter.1 ht).1
  by_cases hp : c.part = .trials
  · have he := applyCall_ok h
    cases c with
    | trialCreate t =>
      obtain ⟨_, rfl⟩ := he
      intro t' ht'
      rcases List.mem_append.1 ht' with ht' | ht'
      · exact hP t' ht'
      · cases List.mem_singleton.1 ht'
        exact hnew rfl
    | trialStatus k rv st => obtain ⟨_, _, _, rfl⟩ := he; exact forall_updTrial hP fun t ht => hst rfl t (hP t ht)
    | trialUpdateFin k rv fin =>
      obtain ⟨_, _, _, ⟨_, _, rfl⟩ | ⟨_, rfl⟩⟩ := he
      · exact filter _
      · exact forall_updTrial hP fun t ht => hfin rfl t (hP t ht)
    | trialDelete k =>
      obtain ⟨_, _, ⟨_, rfl⟩ | ⟨_, rfl⟩⟩ := he
      · exact forall_updTrial hP fun t ht => hdel rfl t (hP t ht)
      · exact filter _
    | _ => cases hp
  · rw [(applyCall_frame h).trials hp]
    exact hP

theorem applyCall_trials_shape {w w' : World} {c : Call} (h : applyCall w c = .ok w') :
    w'.trials = w.trials ∨
    (∃ t, c = .trialCreate t ∧ findTrial w t.key = none ∧ w' = { w with trials := w.trials ++ [t] }) ∨
    (∃ k f, w' = updTrial w k f ∧ ∀ t, (f t).key = t.key ∧ (f t).exp = t.exp) ∨
    (∃ k, w' = { w with trials := w.trials.filter (fun t => ¬ t.key = k) }) := by
  by_cases hp : c.part = .trials
  · have he := applyCall_ok h
    cases c with
    | trialCreate t => exact Or.inr (Or.inl ⟨t, rfl, he⟩)
    | trialStatus k rv st => obtain ⟨_, _, _, h'⟩ := he; exact Or.inr (Or.inr (Or.inl ⟨k, _, h', fun _ => ⟨rfl, rfl⟩⟩))
    | trialUpdateFin k rv fin =>
      obtain ⟨_, _, _, ⟨_, _, h'⟩ | ⟨_, h'⟩⟩ := he
      · exact Or.inr (Or.inr (Or.inr ⟨k, h'⟩))
      · exact Or.inr (Or.inr (Or.inl ⟨k, _, h', fun _ => ⟨rfl, rfl⟩⟩))
    | trialDelete k =>
      obtain ⟨_, _, ⟨_, h'⟩ | ⟨_, h'⟩⟩ := he
      · exact Or.inr (Or.inr (Or.inl ⟨k, _, h', fun _ => ⟨rfl, rfl⟩⟩))
      · exact Or.inr (Or.inr (Or.inr ⟨k, h'⟩))
    | _ => cases hp
  · exact Or.inl ((applyCall_frame h).trials hp)

theorem applyCall_jobs_cases {w w' : World} {c : Call} (h : applyCall w c = .ok w') :
    w'.jobs = w.jobs ∨
    (∃ k, c = .jobCreate k ∧ findJob w k = none ∧ w' = { w with jobs := w.jobs ++ [{ key := k }] }) ∨
    (∃ k, c = .jobDelete k ∧ (findJob w k).isSome = true ∧ w' = { w with jobs := w.jobs.filter (fun j => ¬ j.key = k) }) := by
  by_cases hp : c.part = .jobs
  · have he := applyCall_ok h
    cases c with
    | jobCreate k => exact Or.inr (Or.inl ⟨k, rfl, he⟩)
    | jobDelete k => exact Or.inr (Or.inr ⟨k, rfl, he⟩)
    | _ => cases hp
  · exact Or.inl ((applyCall_frame h).jobs hp)

end Katib.Ctl
