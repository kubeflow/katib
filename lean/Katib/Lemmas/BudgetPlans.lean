import Katib.Lemmas.Budget
import Katib.Lemmas.ExpPlan
import Katib.Lemmas.SugPlan
import Katib.Lemmas.TrialPlan
import Katib.Props.C01
import Katib.Props.C05
/-!
# The three plans only issue calls that are justified by the stores they read (`VJust`)
-/
namespace Katib.Ctl
open Katib Katib.Exp

theorem cnt_nonneg (c : List Nat) (i : Nat) : 0 ≤ cnt c i := by unfold cnt; exact Int.natCast_nonneg _

theorem completed_nonneg (st : ExpSt) : 0 ≤ completedCount st := by
  unfold completedCount
  have h0 := cnt_nonneg st.counts 0; have h1 := cnt_nonneg st.counts 1; have h2 := cnt_nonneg st.counts 2
  have h3 := cnt_nonneg st.counts 3; have h5 := cnt_nonneg st.counts 5
  omega

theorem active_nonneg (st : ExpSt) : 0 ≤ activeCount st := by
  unfold activeCount
  have h4 := cnt_nonneg st.counts 4; have h6 := cnt_nonneg st.counts 6
  omega

/-! ### the counters of a refreshed status count the Trials by class -/

/-- the classes `completedCount` adds up; the other two are what `activeCount` adds up -/
def doneClass : Class → Bool
  | .running | .pending => false
  | _ => true

theorem done_classify (t : TrialO) :
    doneClass (classify (toTrialV t)) =
      (tHas t .killed || tHas t .failed || tHas t .succeeded || tHas t .earlyStopped || (!tHas t .running && tHas t .metricsUnavailable)) := by
  have bools : ∀ k f s es r mu : Bool,
      doneClass (if k then .killed else if f then .failed else if s then .succeeded else if es then .earlyStopped
        else if r then .running else if mu then .metricsUnavailable else .pending) = (k || f || s || es || (!r && mu)) := by
    decide
  exact bools (tHas t .killed) (tHas t .failed) (tHas t .succeeded) (tHas t .earlyStopped) (tHas t .running) (tHas t .metricsUnavailable)

theorem tCompleted_of_done {t : TrialO} (h : doneClass (classify (toTrialV t)) = true) : tCompleted t = true := by
  rw [done_classify] at h
  unfold tCompleted
  generalize tHas t .killed = k, tHas t .failed = f, tHas t .succeeded = s, tHas t .earlyStopped = es, tHas t .running = r,
    tHas t .metricsUnavailable = mu at h ⊢
  revert k f s es r mu
  decide

theorem done_of_tCompleted {t : TrialO} (hc : tCompleted t = true)
    (hmu : tHas t .metricsUnavailable = true → tHas t .running = false) : doneClass (classify (toTrialV t)) = true := by
  rw [done_classify]
  unfold tCompleted at hc
  generalize tHas t .killed = k, tHas t .failed = f, tHas t .succeeded = s, tHas t .earlyStopped = es, tHas t .running = r,
    tHas t .metricsUnavailable = mu at hc hmu ⊢
  revert k f s es r mu
  decide

theorem counts_update (e : ExpO) (st : ExpSt) (ts : List TrialO) (now : Nat) :
    completedCount (expUpdateStatus e st ts now) = ((ts.filter (fun t => doneClass (classify (toTrialV t)))).length : Nat) ∧
    activeCount (expUpdateStatus e st ts now) = ((ts.filter (fun t => !doneClass (classify (toTrialV t)))).length : Nat) := by
  have byClass : ∀ l : List TrialO,
      (l.filter (fun t => doneClass (classify (toTrialV t)))).length =
        ((l.map toTrialV).filter (fun t => classify t = .killed)).length + ((l.map toTrialV).filter (fun t => classify t = .failed)).length +
        ((l.map toTrialV).filter (fun t => classify t = .succeeded)).length + ((l.map toTrialV).filter (fun t => classify t = .earlyStopped)).length +
        ((l.map toTrialV).filter (fun t => classify t = .metricsUnavailable)).length ∧
      (l.filter (fun t => !doneClass (classify (toTrialV t)))).length =
        ((l.map toTrialV).filter (fun t => classify t = .running)).length + ((l.map toTrialV).filter (fun t => classify t = .pending)).length := by
    intro l
    induction l with
    | nil => exact ⟨rfl, rfl⟩
    | cons t r ih =>
      obtain ⟨ih1, ih2⟩ := ih
      simp only [List.map_cons, List.filter_cons]
      cases hc : classify (toTrialV t) <;>
        simp only [doneClass.eq_1, doneClass.eq_2, doneClass.eq_3, Bool.not_true, Bool.not_false, if_true,
          Bool.false_eq_true, if_false, List.length_cons, reduceCtorEq, decide_false, decide_true, ih1, ih2, and_true, true_and] <;> omega
  have hl := fun c => C05_lists { ty := e.cfg.objType, goal := e.cfg.goal } (ts.map toTrialV) c
  have h0 := hl .killed; have h1 := hl .failed; have h2 := hl .succeeded; have h3 := hl .earlyStopped
  have h4 := hl .running; have h5 := hl .metricsUnavailable; have h6 := hl .pending
  simp only [Lists.get] at h0 h1 h2 h3 h4 h5 h6
  unfold completedCount activeCount
  simp only [counts_of_update, cnt, countsOfLists, List.getD_cons_zero, List.getD_cons_succ, h0, h1, h2, h3, h4, h5, h6, List.length_map]
  obtain ⟨b1, b2⟩ := byClass ts
  exact ⟨by omega, by omega⟩

/-- the stored counters of a freshly computed status add up to the number of trials seen -/
theorem counts_total (e : ExpO) (st : ExpSt) (ts : List TrialO) (now : Nat) :
    completedCount (expUpdateStatus e st ts now) + activeCount (expUpdateStatus e st ts now) = (ts.length : Int) := by
  rw [(counts_update e st ts now).1, (counts_update e st ts now).2, length_filter_split (fun t => doneClass (classify (toTrialV t))) ts]
  omega

/-- `ReconcileSuggestions` never asks for more than `maxTrialCount`, provided no more Trials than that are seen -/
theorem expWanted_le {v : World} {e : ExpO} {now : Nat} {st : ExpSt} {m : Int} (hmax : e.maxT = some m)
    (hts : ((trialsOf v e.key).length : Int) ≤ m) : expWanted v e (expRefresh v e st now) ≤ m := by
  have hies : (0 : Int) ≤ (((trialsOf v e.key).filter (fun t => !obsAvailable t.st && tHas t .earlyStopped)).length : Int) :=
    Int.natCast_nonneg _
  have key : ((trialsOf v e.key).length : Int) + addCount e (expRefresh v e st now) ≤ m := by
    rcases expRefresh_cases v e st now with ⟨h0, hr⟩ | ⟨_, hr⟩ <;> rw [hr]
    · have hadd := addCount_le e st m hmax
      have hc := completed_nonneg st
      have ha := active_nonneg st
      rw [h0]
      simp only [List.length_nil, Int.natCast_zero]
      omega
    · have hadd := addCount_le e (expUpdateStatus e st (trialsOf v e.key) now) m hmax
      rw [counts_total e st (trialsOf v e.key) now] at hadd
      omega
  unfold expWanted
  omega

theorem expPlan_vjust_of_le {k : Key2} {m : Int} (v hS : World) (k' : Key2) (now : Nat) (hsugs : v.sugs = hS.sugs)
    (hle : ∀ e st, findExp v k = some e → ExpAdds v e now st → expWanted v e (expRefresh v e st now) ≤ m) :
    (expPlan v k' now).All (VJust k m hS) :=
  expPlan_all fun e he c hc => by
    have hkey : e.key = k' := findExp_key he
    have sug : ∀ {s}, e.key = k → findSug v e.key = some s → findSug hS k = some s := fun hk hs => by
      rw [← findSug_congr hsugs, ← hk]; exact hs
    cases hc with
    | cleanup _ _ hs _ => exact fun hk => ⟨_, sug hk hs, rfl, Or.inl ⟨rfl, rfl⟩⟩
    | restart _ _ _ hs _ => exact fun hk => ⟨_, sug hk hs, rfl, Or.inl ⟨rfl, rfl⟩⟩
    | sugCreate ha _ => exact fun hk => ⟨rfl, rfl, hle e _ (by rw [← hk, hkey]; exact he) ha⟩
    | sugUpdateReq ha _ _ _ => exact fun hk => hle e _ (by rw [← hk, hkey]; exact he) ha
    | trialCreate _ hs _ _ ha _ => exact fun hns hexp => ⟨_, sug (key2_ext hns hexp) hs, ha⟩
    | _ => trivial

theorem expPlan_vjust {k : Key2} {m : Int} (hm : 0 ≤ m) (v hS : World) (k' : Key2) (now : Nat)
    (hsugs : v.sugs = hS.sugs) (hexp : ∀ e, findExp v k = some e → e.maxT = some m)
    (hts : ((trialsOf v k).length : Int) ≤ m) : (expPlan v k' now).All (VJust k m hS) :=
  expPlan_vjust_of_le v hS k' now hsugs fun e _ he _ =>
    expWanted_le (hexp e he) (by rw [findExp_key he]; exact hts)

theorem sugPlan_vjust {k : Key2} {m : Int} (v hS : World) (k' : Key2) (env : SugEnv) (now : Nat) (hsugs : v.sugs = hS.sugs) :
    (sugPlan v k' env now).All (VJust k m hS) :=
  sugPlan_all fun s hs c hc => by
    cases hc with
    | status hw _ =>
      intro hk
      refine ⟨s, by rw [← findSug_congr hsugs, ← hk, findSug_key hs]; exact hs, rfl, ?_⟩
      cases hw with
      | appended _ _ _ hsize => exact Or.inr ⟨_, rfl, by rw [length_freshNames]; exact hsize, rfl⟩
      | _ => exact Or.inl ⟨rfl, rfl⟩
    | _ => trivial

theorem trialPlan_vjust {k : Key2} {m : Int} (v hS : World) (k' : Key2) (now : Nat) : (trialPlan v k' now).All (VJust k m hS) :=
  trialPlan_all fun _ _ _ hc => by cases hc <;> trivial

theorem Plan.vjust {k : Key2} {m : Int} (hm : 0 ≤ m) {v hS : World} {now : Nat} {p : Prog} (hp : Plan v now p)
    (hsugs : v.sugs = hS.sugs) (hexp : ∀ e, findExp v k = some e → e.maxT = some m) (hts : ((trialsOf v k).length : Int) ≤ m) :
    p.All (VJust k m hS) := by
  cases hp with
  | exp k' => exact expPlan_vjust hm v hS k' now hsugs hexp hts
  | sug k' env => exact sugPlan_vjust v hS k' env now hsugs
  | trial k' => exact trialPlan_vjust v hS k' now

end Katib.Ctl
