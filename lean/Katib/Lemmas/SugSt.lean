import Katib.Lemmas.Sched
import Katib.Lemmas.TrialPlan
/-!
# A property of the status of one Suggestion, over every schedule

The status of a Suggestion is written by the suggestion reconcile, by the clean-up and the restart of the experiment reconcile and
by nobody else (no environment event touches a Suggestion).  `sugStSched` is the `Sched` of a property `P` of the status of
Suggestion `k` (which may mention the history): what is left to show for a particular `P` is that the experiment and the suggestion
reconcile give Suggestion `k` only statuses that satisfy it.
-/
namespace Katib.Ctl
open Katib Katib.Exp

def SugStInv (P : SugSt → Prop) (k : Key2) (w : World) : Prop := ∀ s, findSug w k = some s → P s.st

/-- a call creates Suggestion `k` only with a status that satisfies `P`, and gives it only such a status -/
def SugStJust (P : SugSt → Prop) (k : Key2) : Call → Prop
  | .sugCreate s' => s'.key = k → P s'.st
  | .sugStatus k' _ st' => k' = k → P st'
  | _ => True

theorem sugSt_same {P : SugSt → Prop} {k : Key2} {w w' : World} (e : w'.sugs = w.sugs) (h : SugStInv P k w) : SugStInv P k w' := by
  unfold SugStInv
  rw [findSug_congr e]
  exact h

theorem apply_pres_sugSt {P : SugSt → Prop} {k : Key2} {w w' : World} {c : Call} (hI : SugStInv P k w) (hJ : SugStJust P k c)
    (h : applyCall w c = .ok w') : SugStInv P k w' :=
  applyCall_findSug h hI (fun hc hk => by subst hc; exact hJ hk) (fun _ s hs => hI s hs) (fun hc _ _ => by subst hc; exact hJ rfl)

theorem exec_sugSt {P : SugSt → Prop} {k : Key2} {w0 : World} (f : Faults) {p : Prog} (hp : p.All (SugStJust P k))
    (hI : SugStInv P k w0) : SugStInv P k (exec f p w0 0 []).w :=
  exec_preserves f (fun _ _ _ => apply_pres_sugSt) p w0 0 [] hp hI

theorem trialPlan_sugSt (P : SugSt → Prop) (k : Key2) (v : World) (k' : Key2) (now : Nat) :
    (trialPlan v k' now).All (SugStJust P k) :=
  trialPlan_all fun _ _ _ hc => by cases hc <;> trivial

theorem sugStSched {P : Array World → SugSt → Prop} (k : Key2) (push : ∀ {hs st} (w' : World), P hs st → P (hs.push w') st)
    (exp : ∀ {s : Sim} (vE vT vS vD : Nat) (k' : Key2), SInv (fun hs w => SugStInv (P hs) k w) (fun _ _ => True) s →
      (expPlan (assemble s vE vT vS vD) k' s.opIndex).All (SugStJust (P s.hist) k))
    (sug : ∀ {s : Sim} (vE vT vS vD : Nat) (k' : Key2) (env : SugEnv), SInv (fun hs w => SugStInv (P hs) k w) (fun _ _ => True) s →
      (sugPlan (assemble s vE vT vS vD) k' env s.opIndex).All (SugStJust (P s.hist) k)) :
    Sched (fun _ => True) (fun hs w => SugStInv (P hs) k w) (fun _ _ => True) where
  refl _ := trivial
  trans _ _ := trivial
  push w' h s hs := push w' (h s hs)
  plan f vE vT vS vD hp hI := by
    refine ⟨exec_sugSt f ?_ hI.cur, trivial⟩
    cases hp with
    | exp k' => exact exp vE vT vS vD k' hI
    | sug k' env => exact sug vE vT vS vD k' env hI
    | trial k' => exact trialPlan_sugSt _ k _ k' _
  env _ hop hI := ⟨sugSt_same (stepWorld_sugs hop) hI.cur, trivial⟩

end Katib.Ctl
