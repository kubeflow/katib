import Katib.Lemmas.Cond
import Katib.Lemmas.Prog
import Katib.Lemmas.Store
/-!
# The trial reconcile, call by call

`TrialCall v t now` lists the calls `trialPlan` can make when it read the Trial `t` from the view `v`, one constructor per call
site with the conditions on the path to it; `TrialWrites` lists the statuses it can write, `TrialMarks` what
`UpdateTrialStatusCondition` does to a status.  `trialPlan_spec` is the one walk of the decision tree; every other statement
about all calls of a trial reconcile is read off it with `Prog.All.mono` (`trialPlan_all`).
-/
namespace Katib.Ctl
open Katib

theorem has_trialRunningFalse_other {cs : List TCond} {now : Nat} {c : TCT} (h : c ≠ .running) :
    Cond.has (trialRunningFalse cs now) c = Cond.has cs c := by
  unfold trialRunningFalse
  cases Cond.get cs .running with
  | some x => exact Cond.has_set_other h
  | none => rfl

theorem has_trialRunningFalse_self (cs : List TCond) (now : Nat) : Cond.has (trialRunningFalse cs now) .running = false := by
  unfold trialRunningFalse
  cases h : Cond.get cs .running with
  | some c => exact Cond.has_set_self
  | none => unfold Cond.has; rw [h]

theorem has_tMark_self {cs : List TCond} {ty : TCT} {r : String} {now : Nat} : Cond.has (tMark cs ty r now) ty = true :=
  Cond.has_set_self

theorem has_tMark_other {cs : List TCond} {ty c : TCT} {r : String} {now : Nat} (h1 : c ≠ ty) (h2 : c ≠ .running) :
    Cond.has (tMark cs ty r now) c = Cond.has cs c := by
  unfold tMark
  rw [Cond.has_set_other h1, has_trialRunningFalse_other h2]

theorem not_completed_has {t : TrialO} (h : tCompleted t = false) :
    tHas t .succeeded = false ∧ tHas t .failed = false ∧ tHas t .killed = false ∧ tHas t .earlyStopped = false ∧
    tHas t .metricsUnavailable = false := by
  unfold tCompleted at h
  simp only [Bool.or_eq_false_iff] at h
  exact ⟨h.1.1.1.1, h.1.1.1.2, h.1.1.2, h.1.2, h.2⟩

theorem jsOf_succeeded {state : JobState} {r : Bool} (h : jsOf state r = some .succeeded) : state = .succeeded := by
  cases state with
  | succeeded => rfl
  | failed => cases h
  | both => cases h
  | running => cases r <;> cases h

theorem jsOf_failed {state : JobState} {r : Bool} (h : jsOf state r = some .failed) : state = .failed ∨ state = .both := by
  cases state with
  | succeeded => cases h
  | failed => exact Or.inl rfl
  | both => exact Or.inr rfl
  | running => cases r <;> cases h

/-- `GetDeployedJobStatus` of a finished run object: Failed, or Succeeded for one that only succeeded -/
theorem jsOf_finished {state : JobState} (r : Bool) (h : state ≠ .running) :
    jsOf state r = some .failed ∨ (state = .succeeded ∧ jsOf state r = some .succeeded) := by
  cases state with
  | running => exact absurd rfl h
  | failed => exact Or.inl rfl
  | both => exact Or.inl rfl
  | succeeded => exact Or.inr ⟨rfl, rfl⟩

theorem all_trialFinish {P : Call → Prop} {t : TrialO} {st : TrialSt} :
    (trialFinish t st).All P ↔ (st ≠ t.st → P (.trialStatus t.key t.rv st)) :=
  Prog.all_ite_step

theorem all_trialFinish_self {P : Call → Prop} {t : TrialO} : (trialFinish t t.st).All P :=
  all_trialFinish.2 fun h => absurd rfl h

/-- what `UpdateTrialStatusCondition` makes of the status `st` when the run object's status is `js`: one of its four marks,
    each with its test, or `st` as it is -/
inductive TrialMarks (st : TrialSt) (now : Nat) : JobCond → TrialSt → Prop
  | succeeded : obsAvailable st = true → Cond.has st.conds .succeeded = false → Cond.has st.conds .earlyStopped = false →
      TrialMarks st now .succeeded { st with conds := tMark st.conds .succeeded rTrialSucceeded now, completion := some now }
  | unavailable : (obsAvailable st && !Cond.has st.conds .succeeded) = false → Cond.has st.conds .metricsUnavailable = false →
      TrialMarks st now .succeeded { st with conds := tMark st.conds .metricsUnavailable rTrialMU now, completion := some now }
  | failed : Cond.has st.conds .failed = false → Cond.has st.conds .earlyStopped = false →
      TrialMarks st now .failed { st with conds := tMark st.conds .failed rTrialFailed now, completion := some now }
  | running : Cond.has st.conds .running = false → Cond.has st.conds .earlyStopped = false →
      TrialMarks st now .running { st with conds := Cond.set st.conds .running true rTrialRunning now }
  | kept {js} : TrialMarks st now js st

theorem all_trialUpdateCondition {P : Call → Prop} {t : TrialO} {st : TrialSt} {js : JobCond} {now : Nat}
    (hrep : js = .succeeded → (obsAvailable st && !Cond.has st.conds .succeeded) = false →
      Cond.has st.conds .metricsUnavailable = false → t.push = true → P (.dbReport t.key.name unavailableEntry))
    (hst : ∀ {st'}, TrialMarks st now js st' → st' ≠ t.st → P (.trialStatus t.key t.rv st')) :
    (trialUpdateCondition t st js now).All P := by
  have fin : ∀ {st'}, TrialMarks st now js st' → (trialFinish t st').All P := fun hm => all_trialFinish.2 (hst hm)
  unfold trialUpdateCondition
  cases js with
  | succeeded =>
    simp only []
    split
    · rename_i h
      simp only [Bool.and_eq_true, Bool.not_eq_true'] at h
      split
      · rename_i hes
        exact fin (.succeeded h.1 h.2 (by simpa using hes))
      · exact fin .kept
    · rename_i h
      have h := Bool.eq_false_iff.2 h
      split
      · rename_i hmu
        have hmu : Cond.has st.conds .metricsUnavailable = false := by simpa using hmu
        split
        · rename_i hp
          exact ⟨hrep rfl h hmu hp, fin (.unavailable h hmu), trivial⟩
        · exact fin (.unavailable h hmu)
      · exact fin .kept
  | failed =>
    simp only []
    split
    · rename_i h
      simp only [Bool.and_eq_true, Bool.not_eq_true'] at h
      exact fin (.failed h.1 h.2)
    · exact fin .kept
  | running =>
    simp only []
    split
    · rename_i h
      simp only [Bool.and_eq_true, Bool.not_eq_true'] at h
      exact fin (.running h.1 h.2)
    · exact fin .kept

/-- the status after `UpdateTrialStatusObservation`, which runs for a succeeded job or an early-stopped Trial and reads the
    objective metric from the DB -/
inductive TrialObs (v : World) (t : TrialO) (js : JobCond) : TrialSt → Prop
  | skipped : (js = .succeeded || tHas t .earlyStopped) = false → TrialObs v t js t.st
  | empty : (js = .succeeded || tHas t .earlyStopped) = true → (dbOf v t.key.name).isEmpty = true → TrialObs v t js t.st
  | read {ms} : (js = .succeeded || tHas t .earlyStopped) = true → (dbOf v t.key.name).isEmpty = false →
      Metrics.getMetrics (dbOf v t.key.name) [objMetric] = some ms →
      TrialObs v t js { t.st with obs := some (ms.map (fun m => { m with lastTs := none })) }

theorem TrialObs.conds {v : World} {t : TrialO} {js : JobCond} {st : TrialSt} (h : TrialObs v t js st) : st.conds = t.st.conds := by
  cases h with
  | skipped _ => rfl
  | empty _ _ => rfl
  | read _ _ _ => rfl

theorem all_trialObserve {P : Call → Prop} {v : World} {t : TrialO} {js : JobCond} {now : Nat}
    (hget : (js = .succeeded || tHas t .earlyStopped) = true → P (.dbGet t.key.name))
    (hupd : ∀ {st}, TrialObs v t js st → (js = .succeeded && st.obs.isNone && !t.push) = false →
      (trialUpdateCondition t st js now).All P) :
    (trialObserve v t js now).All P := by
  have cont : ∀ {st}, TrialObs v t js st →
      (if (js = .succeeded && st.obs.isNone && !t.push) = true then Prog.done .requeueAfter
        else trialUpdateCondition t st js now).All P := by
    intro st ho
    split
    · trivial
    · rename_i h
      exact hupd ho (Bool.eq_false_iff.2 h)
  unfold trialObserve
  simp only []
  split
  · rename_i hr
    split
    · rename_i he
      exact ⟨hget hr, cont (.empty hr he), trivial⟩
    · rename_i he
      split
      · rename_i ms hm
        exact ⟨hget hr, cont (.read hr (Bool.eq_false_iff.2 he) hm), trivial⟩
      · exact ⟨hget hr, trivial, trivial⟩
  · rename_i hr
    exact cont (.skipped (Bool.eq_false_iff.2 hr))

/-- `reconcileTrial` goes on with the status `js` of a run object in state `state`: the Trial is not completed, or is
    early-stopped, and `GetDeployedJobStatus` answers `js` -/
structure TrialSees (t : TrialO) (state : JobState) (js : JobCond) : Prop where
  open_ : tCompleted t = false ∨ tHas t .earlyStopped = true
  status : jsOf state (tHas t .running) = some js

/-- `reconcileTrial` reaches `UpdateTrialStatusCondition` with the status `st`: the observation is read where it is due, and a
    succeeded job of a Trial without push collector has reported -/
structure TrialUpdates (v : World) (t : TrialO) (state : JobState) (js : JobCond) (st : TrialSt) : Prop
    extends TrialSees t state js where
  obs : TrialObs v t js st
  reported : (js = .succeeded && st.obs.isNone && !t.push) = false

theorem TrialUpdates.not_completed {v : World} {t : TrialO} {state : JobState} {js : JobCond} {st : TrialSt}
    (h : TrialUpdates v t state js st) (hes : Cond.has st.conds .earlyStopped = false) : tCompleted t = false :=
  h.open_.elim id fun h' => by rw [tHas, ← h.obs.conds, hes] at h'; cases h'

theorem all_trialAfterJob {P : Call → Prop} {v : World} {t : TrialO} {state : JobState} {now : Nat}
    (hget : ∀ {js}, TrialSees t state js → (js = .succeeded || tHas t .earlyStopped) = true → P (.dbGet t.key.name))
    (hrep : ∀ {st}, TrialUpdates v t state .succeeded st → (obsAvailable st && !Cond.has st.conds .succeeded) = false →
      Cond.has st.conds .metricsUnavailable = false → t.push = true → P (.dbReport t.key.name unavailableEntry))
    (hst : ∀ {js st st'}, TrialUpdates v t state js st → TrialMarks st now js st' → st' ≠ t.st →
      P (.trialStatus t.key t.rv st')) :
    (trialAfterJob v t state now).All P := by
  unfold trialAfterJob
  split
  · exact all_trialFinish_self
  · rename_i ho
    have ho : tCompleted t = false ∨ tHas t .earlyStopped = true := by
      cases hc : tCompleted t with
      | false => exact Or.inl rfl
      | true => exact Or.inr (by simpa [hc] using ho)
    split
    · exact all_trialFinish_self
    · rename_i js hjs
      have hs : TrialSees t state js := ⟨ho, hjs⟩
      refine all_trialObserve (hget hs) fun hobs hr => ?_
      have hu : TrialUpdates v t state js _ := ⟨hs, hobs, hr⟩
      exact all_trialUpdateCondition (fun e => by subst e; exact hrep hu) (hst hu)

/-- `reconcileTrial`: `reconcileJob`, then the status update for the run object it returns -/
def trialReconcileJob (v : World) (k : Key2) (t : TrialO) (now : Nat) : Prog :=
  match findJob v k with
  | none =>
    if tCompleted t then trialFinish t t.st
    else .step (.jobCreate k) (trialAfterJob v t .running now) (.done .err)
  | some j =>
    if tCompleted t && !t.retain then .step (.jobDelete k) (.done .ok) (.done .err)
    else trialAfterJob v t j.state now

theorem trialPlan_none {v : World} {k : Key2} (now : Nat) (ht : findTrial v k = none) : trialPlan v k now = .done .ok := by
  unfold trialPlan
  rw [ht]

theorem trialPlan_eq {v : World} {k : Key2} {t : TrialO} (now : Nat) (ht : findTrial v k = some t) :
    trialPlan v k now =
      if !t.deleted && !t.fin then .step (.trialUpdateFin k t.rv true) (.done .requeue) (.done .err)
      else if t.deleted && t.fin then
        .step (.dbDelete k.name) (.step (.trialUpdateFin k t.rv false) (.done .requeue) (.done .err)) (.done .err)
      else if !tHas t .created then
        trialFinish t { t.st with started := true, conds := Cond.set t.st.conds .created true rTrialCreated now }
      else trialReconcileJob v k t now := by
  unfold trialPlan
  rw [ht]
  rfl

/-- the reconcile gets as far as `reconcileTrial`: `needUpdateFinalizers` says no (the Trial holds the finalizer iff it is not
    under deletion) and the Trial is Created -/
structure TrialRuns (t : TrialO) : Prop where
  settled : t.fin = !t.deleted
  created : tHas t .created = true

/-- `reconcileJob` returns a run object in state `state`: the one it found, unless the Trial is completed and its run object
    not to be retained, or the one it has just created -/
inductive TrialJob (v : World) (t : TrialO) : JobState → Prop
  | created : TrialRuns t → findJob v t.key = none → tCompleted t = false → TrialJob v t .running
  | found {j} : TrialRuns t → findJob v t.key = some j → (tCompleted t = true → t.retain = true) → TrialJob v t j.state

/-- the statuses a trial reconcile may write -/
inductive TrialWrites (v : World) (t : TrialO) (now : Nat) : TrialSt → Prop
  | created : t.fin = !t.deleted → tHas t .created = false →
      TrialWrites v t now { t.st with started := true, conds := Cond.set t.st.conds .created true rTrialCreated now }
  | updated {state js st st'} : TrialJob v t state → TrialUpdates v t state js st → TrialMarks st now js st' →
      TrialWrites v t now st'

/-- every call of a trial reconcile that read `t` from the view `v`, with the condition under which it is made: one
    constructor per call site of `ReconcileTrial.Reconcile` and what it calls -/
inductive TrialCall (v : World) (t : TrialO) (now : Nat) : Call → Prop
  | addFinalizer : t.deleted = false → t.fin = false → TrialCall v t now (.trialUpdateFin t.key t.rv true)
  | dbDelete : t.deleted = true → t.fin = true → TrialCall v t now (.dbDelete t.key.name)
  | releaseFinalizer : t.deleted = true → t.fin = true → TrialCall v t now (.trialUpdateFin t.key t.rv false)
  | jobCreate : TrialRuns t → findJob v t.key = none → tCompleted t = false → TrialCall v t now (.jobCreate t.key)
  | jobDelete {j} : TrialRuns t → findJob v t.key = some j → tCompleted t = true → t.retain = false →
      TrialCall v t now (.jobDelete t.key)
  | dbGet {state js} : TrialJob v t state → TrialSees t state js → (js = .succeeded || tHas t .earlyStopped) = true →
      TrialCall v t now (.dbGet t.key.name)
  | report {state st} : TrialJob v t state → TrialUpdates v t state .succeeded st →
      (obsAvailable st && !Cond.has st.conds .succeeded) = false → Cond.has st.conds .metricsUnavailable = false → t.push = true →
      TrialCall v t now (.dbReport t.key.name unavailableEntry)
  | status {st} : TrialWrites v t now st → st ≠ t.st → TrialCall v t now (.trialStatus t.key t.rv st)

theorem spec_trialAfterJob {v : World} {t : TrialO} {state : JobState} {now : Nat} (hj : TrialJob v t state) :
    (trialAfterJob v t state now).All (TrialCall v t now) :=
  all_trialAfterJob (.dbGet hj) (.report hj) fun hu hm => .status (.updated hj hu hm)

theorem fin_settled {d f : Bool} (h1 : (!d && !f) ≠ true) (h2 : (d && f) ≠ true) : f = !d := by
  cases d <;> cases f <;> simp at h1 h2 ⊢

theorem trialPlan_spec {v : World} {k : Key2} {t : TrialO} (now : Nat) (ht : findTrial v k = some t) :
    (trialPlan v k now).All (TrialCall v t now) := by
  rw [trialPlan_eq now ht, ← findTrial_key ht]
  split
  · rename_i h
    simp only [Bool.and_eq_true, Bool.not_eq_true'] at h
    exact ⟨.addFinalizer h.1 h.2, trivial, trivial⟩
  · rename_i h1
    split
    · rename_i h
      simp only [Bool.and_eq_true] at h
      exact ⟨.dbDelete h.1 h.2, ⟨.releaseFinalizer h.1 h.2, trivial, trivial⟩, trivial⟩
    · rename_i h2
      have hs := fin_settled h1 h2
      split
      · rename_i hc
        exact all_trialFinish.2 (.status (.created hs (by simpa using hc)))
      · rename_i hc
        have hr : TrialRuns t := ⟨hs, by simpa using hc⟩
        unfold trialReconcileJob
        split
        · rename_i hj
          split
          · exact all_trialFinish_self
          · rename_i hc
            have hc := Bool.eq_false_iff.2 hc
            exact ⟨.jobCreate hr hj hc, spec_trialAfterJob (.created hr hj hc), trivial⟩
        · rename_i j hj
          split
          · rename_i hc
            simp only [Bool.and_eq_true, Bool.not_eq_true'] at hc
            exact ⟨.jobDelete hr hj hc.1 hc.2, trivial, trivial⟩
          · rename_i hc
            exact spec_trialAfterJob (.found hr hj (by simpa using hc))

theorem trialPlan_all {P : Call → Prop} {v : World} {k : Key2} {now : Nat}
    (h : ∀ t, findTrial v k = some t → ∀ c, TrialCall v t now c → P c) : (trialPlan v k now).All P := by
  cases ht : findTrial v k with
  | none => rw [trialPlan_none now ht]; trivial
  | some t => exact (trialPlan_spec now ht).mono (h t ht)

end Katib.Ctl
