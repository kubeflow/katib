import Katib.Lemmas.Sched
/-! Trial keys are unique: every call and every environment event keeps that, whatever the call was computed from. -/
namespace Katib.Ctl
open Katib

def KInv (w : World) : Prop := (w.trials.map (·.key)).Nodup

theorem findTrial_of_mem {w : World} (hK : KInv w) {t : TrialO} (ht : t ∈ w.trials) : findTrial w t.key = some t :=
  find?_of_mem TrialO.key hK ht

theorem kinv_updTrial {w : World} (hK : KInv w) (k : Key2) {f : TrialO → TrialO} (hf : ∀ t, (f t).key = t.key) : KInv (updTrial w k f) := by
  unfold KInv updTrial
  rw [map_key_upd TrialO.key _ _ _ hf]
  exact hK

theorem kinv_same {w w' : World} (e : w'.trials = w.trials) (hK : KInv w) : KInv w' := by
  unfold KInv; rw [e]; exact hK

theorem kinv_filter {w : World} (hK : KInv w) (p : TrialO → Bool) : KInv { w with trials := w.trials.filter p } :=
  (List.Sublist.map _ List.filter_sublist).nodup hK

theorem apply_pres_keys {w w' : World} {c : Call} (hK : KInv w) (h : applyCall w c = .ok w') : KInv w' := by
  rcases applyCall_trials_shape h with h' | ⟨t, _, hnone, rfl⟩ | ⟨k', _, rfl, hf⟩ | ⟨_, rfl⟩
  · exact kinv_same h' hK
  · exact nodup_append_single TrialO.key t hK hnone
  · exact kinv_updTrial hK k' (fun t => (hf t).1)
  · exact kinv_filter hK _

theorem exec_keys {w0 : World} (f : Faults) (p : Prog) (hK : KInv w0) : KInv (exec f p w0 0 []).w :=
  exec_inv f apply_pres_keys p hK

theorem stepWorld_keys {s : Sim} (hK : KInv s.cur) (op : Op) : KInv (stepWorld s op).1 := by
  rcases stepWorld_cases s op with hop | ⟨f, _, _, _, _, p, _, h⟩
  · rcases stepWorld_trials_cases hop with h | ⟨k', _, _, _, _, h⟩ | ⟨k', _, h | h⟩
    · exact kinv_same h hK
    · rw [h]; exact kinv_updTrial hK k' (fun _ => rfl)
    · rw [h]; exact kinv_updTrial hK k' (fun _ => rfl)
    · rw [h]; exact kinv_filter hK _
  · rw [h]; exact exec_keys f p hK

end Katib.Ctl
