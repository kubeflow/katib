import Katib.Model.ExpStatus
/-! Lemmas about `updateTrialsSummary`'s loop. -/
namespace Katib.Exp

theorem push_get (l : Lists) (c c' : Class) (n : String) :
    (l.push c n).get c' = if c = c' then l.get c' ++ [n] else l.get c' := by
  cases c <;> cases c' <;> rfl

def allClasses : List Class := [.killed, .failed, .succeeded, .earlyStopped, .running, .metricsUnavailable, .pending]

theorem allClasses_count (c0 : Class) : (allClasses.map (fun c => if c0 = c then 1 else 0)).sum = 1 := by
  cases c0 <;> rfl

theorem class_partition (ts : List TrialV) :
    (allClasses.map (fun c => (ts.filter (fun t => classify t = c)).length)).sum = ts.length := by
  induction ts with
  | nil => rfl
  | cons t ts ih =>
    have h1 := allClasses_count (classify t)
    simp only [allClasses, List.map_cons, List.map_nil, List.sum_cons, List.sum_nil, ← List.countP_eq_length_filter,
      List.countP_cons, decide_eq_true_eq, List.length_cons] at ih h1 ⊢
    omega

def avail (t : TrialV) : Prop := (objectiveOf t).1 ≠ unavailable
def keyOf (t : TrialV) : Key := (objectiveOf t).2

/-- the numeric branch of `stepBest`, uniformly for minimize / maximize -/
def stepNum (lt : Int → Int → Bool) (meets : Int → Bool) (s : Loop) (t : TrialV) (v : Int) : Loop :=
  let s1 : Loop := if s.best.isNone then { s with bestVal := v, best := some t } else s
  let s2 : Loop := if lt v s1.bestVal then { s1 with bestVal := v, best := some t } else s1
  if meets s2.bestVal then { s2 with goalReached := true } else s2

def ltOf (o : Objective) : Int → Int → Bool :=
  match o.ty with
  | .minimize => fun a b => decide (a < b)
  | .maximize => fun a b => decide (b < a)
  | .other => fun _ _ => false

def meetsOf (o : Objective) : Int → Bool :=
  match o.ty, o.goal with
  | .minimize, some g => fun b => decide (b ≤ g)
  | .maximize, some g => fun b => decide (g ≤ b)
  | _, _ => fun _ => false

theorem stepBest_eq (o : Objective) (s : Loop) (t : TrialV) :
    stepBest o s t =
      if (objectiveOf t).1 = unavailable then s
      else match keyOf t with
        | none => { s with best := some t }
        | some v => stepNum (ltOf o) (meetsOf o) s t v := by
  obtain ⟨ty, goal⟩ := o
  unfold stepBest stepNum ltOf meetsOf keyOf
  generalize objectiveOf t = ob
  obtain ⟨text, key⟩ := ob
  cases key with
  | none => rfl
  | some v => cases ty <;> cases goal <;> simp only [decide_eq_true_eq, Bool.false_eq_true, ↓reduceIte]

theorem stepBest_unavail (o : Objective) (s : Loop) (t : TrialV) (ha : ¬ avail t) : stepBest o s t = s := by
  rw [stepBest_eq, if_pos (Decidable.not_not.mp ha)]

theorem stepBest_lists (o : Objective) (s : Loop) (t : TrialV) :
    (stepBest o s t).lists = s.lists ∧ (stepBest o s t).trials = s.trials := by
  rw [stepBest_eq]
  split
  · exact ⟨rfl, rfl⟩
  · split
    · exact ⟨rfl, rfl⟩
    · simp only [stepNum, apply_ite Loop.lists, apply_ite Loop.trials, ite_self, and_self]

theorem stepTrial_frame (o : Objective) (s : Loop) (t : TrialV) :
    (stepTrial o s t).lists = s.lists.push (classify t) t.name ∧ (stepTrial o s t).trials = s.trials + 1 :=
  stepBest_lists o _ t

theorem foldl_lists (o : Objective) (ts : List TrialV) (s : Loop) (c : Class) :
    (ts.foldl (stepTrial o) s).lists.get c = s.lists.get c ++ (ts.filter (fun t => classify t = c)).map (·.name) := by
  induction ts generalizing s with
  | nil => simp
  | cons t ts ih =>
    simp only [List.foldl_cons, ih, (stepTrial_frame o s t).1, push_get, List.filter_cons]
    by_cases h : classify t = c <;> simp [h]

theorem foldl_trials (o : Objective) (ts : List TrialV) (s : Loop) :
    (ts.foldl (stepTrial o) s).trials = s.trials + ts.length := by
  induction ts generalizing s with
  | nil => simp
  | cons t ts ih => simp only [List.foldl_cons, ih, (stepTrial_frame o s t).2, List.length_cons]; omega

/-- order facts needed about `lt` / `meets` (hold for `<` with `≤ g`, and for `>` with `≥ g`) -/
structure OrdOK (lt : Int → Int → Bool) (meets : Int → Bool) : Prop where
  irrefl : ∀ a, lt a a = false
  trans : ∀ a b c, lt a b = true → lt b c = true → lt a c = true
  negtrans : ∀ a b c, lt a b = true → lt c b = false → lt a c = true
  mono : ∀ v b, lt v b = false → meets v = true → meets b = true

theorem ordOK_of (o : Objective) : OrdOK (ltOf o) (meetsOf o) := by
  obtain ⟨ty, goal⟩ := o
  unfold ltOf meetsOf
  cases ty <;> cases goal <;> constructor <;> simp only [decide_eq_true_eq, decide_eq_false_iff_not, reduceCtorEq, false_implies, implies_true] <;> omega

theorem OrdOK.asymm {lt : Int → Int → Bool} {meets : Int → Bool} (ok : OrdOK lt meets) {a b : Int}
    (h : lt a b = true) : lt b a = false := by
  cases hx : lt b a with
  | false => rfl
  | true => rw [← ok.irrefl a, ← ok.trans a b a h hx]

theorem ltOf_total (o : Objective) (hty : o.ty ≠ .other) (a b : Int) (h1 : ltOf o a b = false) (h2 : ltOf o b a = false) :
    a = b := by
  obtain ⟨ty, goal⟩ := o
  unfold ltOf at h1 h2
  cases ty with
  | other => exact absurd rfl hty
  | minimize => simp only [decide_eq_false_iff_not] at h1 h2; omega
  | maximize => simp only [decide_eq_false_iff_not] at h1 h2; omega

/-- `b`, with key `w`, is the first trial of `p` whose available value no other available value beats -/
def IsBest (lt : Int → Int → Bool) (p : List TrialV) (b : TrialV) (w : Int) : Prop :=
  ∃ pre post, p = pre ++ b :: post ∧ avail b ∧ keyOf b = some w ∧
    (∀ t ∈ pre, avail t → ∀ v, keyOf t = some v → lt w v = true) ∧
    (∀ t ∈ post, avail t → ∀ v, keyOf t = some v → lt v w = false)

section
variable {lt : Int → Int → Bool} {meets : Int → Bool} {p : List TrialV} {b t : TrialV} {v w : Int}

theorem IsBest.mem (h : IsBest lt p b w) : b ∈ p ∧ avail b ∧ keyOf b = some w := by
  obtain ⟨pre, post, hp, ha, hk, _⟩ := h
  exact ⟨by simp [hp], ha, hk⟩

theorem IsBest.not_beaten (ok : OrdOK lt meets) (h : IsBest lt p b w) :
    ∀ t ∈ p, avail t → ∀ v, keyOf t = some v → lt v w = false := by
  obtain ⟨pre, post, hp, _, hk, h1, h2⟩ := h
  intro t ht ha v hv
  rw [hp] at ht
  rcases List.mem_append.mp ht with h3 | h3
  · exact ok.asymm (h1 t h3 ha v hv)
  · rcases List.mem_cons.mp h3 with h3 | h3
    · rw [h3, hk] at hv
      cases hv
      exact ok.irrefl w
    · exact h2 t h3 ha v hv

theorem IsBest.new (ha : avail t) (hk : keyOf t = some v)
    (hp : ∀ t' ∈ p, avail t' → ∀ v', keyOf t' = some v' → lt v v' = true) : IsBest lt (p ++ [t]) t v :=
  ⟨p, [], rfl, ha, hk, hp, fun _ h => nomatch h⟩

theorem IsBest.keep (h : IsBest lt p b w) (ht : avail t → ∀ v, keyOf t = some v → lt v w = false) :
    IsBest lt (p ++ [t]) b w := by
  obtain ⟨pre, post, hp, ha, hk, h1, h2⟩ := h
  refine ⟨pre, post ++ [t], by simp [hp], ha, hk, h1, ?_⟩
  intro t' ht'
  rcases List.mem_append.mp ht' with h3 | h3
  · exact h2 t' h3
  · cases List.mem_singleton.mp h3
    exact ht

end

/-- what the loop state says about the processed prefix `p` -/
structure BestInv (lt : Int → Int → Bool) (meets : Int → Bool) (p : List TrialV) (s : Loop) : Prop where
  none_iff : s.best = none ↔ ∀ t ∈ p, ¬ avail t
  some_spec : ∀ b, s.best = some b → IsBest lt p b s.bestVal
  goal_iff : s.goalReached = true ↔ (s.best.isSome = true ∧ meets s.bestVal = true)

section
variable {lt : Int → Int → Bool} {meets : Int → Bool} {p : List TrialV} {s : Loop}

theorem bestInv_init (lt : Int → Int → Bool) (meets : Int → Bool) : BestInv lt meets [] {} :=
  ⟨⟨fun _ _ h => (nomatch h), fun _ => rfl⟩, fun _ h => (nomatch h), ⟨fun h => (nomatch h), fun h => (nomatch h.1)⟩⟩

/-- the invariant reads `best`, `bestVal` and `goalReached` only -/
theorem BestInv.congr {s' : Loop} (h : BestInv lt meets p s) (hb : s'.best = s.best) (hv : s'.bestVal = s.bestVal)
    (hg : s'.goalReached = s.goalReached) : BestInv lt meets p s' := by
  constructor
  · rw [hb]; exact h.none_iff
  · rw [hb, hv]; exact h.some_spec
  · rw [hg, hb, hv]; exact h.goal_iff

theorem BestInv.skip (h : BestInv lt meets p s) (t : TrialV) (ha : ¬ avail t) : BestInv lt meets (p ++ [t]) s := by
  refine ⟨?_, fun b hb => (h.some_spec b hb).keep (fun ha' => absurd ha' ha), h.goal_iff⟩
  rw [h.none_iff]
  constructor
  · intro h1 t' ht'
    rcases List.mem_append.mp ht' with h2 | h2
    · exact h1 t' h2
    · cases List.mem_singleton.mp h2
      exact ha
  · intro h1 t' ht'
    exact h1 t' (List.mem_append_left _ ht')

theorem bestInv_stepNum (ok : OrdOK lt meets) (h : BestInv lt meets p s) (t : TrialV) (v : Int)
    (ha : avail t) (hk : keyOf t = some v) : BestInv lt meets (p ++ [t]) (stepNum lt meets s t v) := by
  -- `s2`: the state before the goal test
  obtain ⟨s2, heq, hg, hsome, hspec, hmono⟩ : ∃ s2 : Loop,
      stepNum lt meets s t v = (if meets s2.bestVal then { s2 with goalReached := true } else s2) ∧
      s2.goalReached = s.goalReached ∧ s2.best.isSome = true ∧
      (∀ b, s2.best = some b → IsBest lt (p ++ [t]) b s2.bestVal) ∧
      (s.best.isSome = true → lt s.bestVal s2.bestVal = false) := by
    cases hb : s.best with
    | none =>
      refine ⟨{ s with bestVal := v, best := some t }, ?_, rfl, rfl, ?_, fun hx => nomatch hx⟩
      · unfold stepNum; simp [hb, ok.irrefl]
      · intro b hb2
        cases hb2
        exact .new ha hk (fun t' ht' ha' => absurd ha' (h.none_iff.mp hb t' ht'))
    | some b0 =>
      have hb0 := h.some_spec b0 hb
      cases hlt : lt v s.bestVal with
      | true =>
        refine ⟨{ s with bestVal := v, best := some t }, ?_, rfl, rfl, ?_, fun _ => ok.asymm hlt⟩
        · unfold stepNum; simp [hb, hlt]
        · intro b hb2
          cases hb2
          exact .new ha hk (fun t' ht' ha' v' hv' => ok.negtrans _ _ _ hlt (hb0.not_beaten ok t' ht' ha' v' hv'))
      | false =>
        refine ⟨s, ?_, rfl, by rw [hb]; rfl, ?_, fun _ => ok.irrefl _⟩
        · unfold stepNum; simp [hb, hlt]
        · intro b hb2
          rw [hb] at hb2
          cases hb2
          exact hb0.keep (fun _ v' hv' => by rw [hk] at hv'; cases hv'; exact hlt)
  rw [heq]
  have hnone : s2.best = none ↔ ∀ t' ∈ p ++ [t], ¬ avail t' :=
    ⟨fun hx => (by rw [hx] at hsome; cases hsome), fun hx => absurd ha (hx t (by simp))⟩
  split
  · rename_i hm
    exact ⟨hnone, hspec, by simp [hsome, hm]⟩
  · rename_i hm
    refine ⟨hnone, hspec, ?_⟩
    -- the flag was not up before: the old best value would meet the goal, hence so would the new one
    rw [hg, h.goal_iff]
    constructor
    · intro ⟨h1, h2⟩
      exact absurd (ok.mono _ _ (hmono h1) h2) hm
    · intro ⟨_, h2⟩
      exact absurd h2 hm

theorem bestInv_foldl (o : Objective) (ts p : List TrialV) (s : Loop)
    (hnum : ∀ t ∈ ts, avail t → keyOf t ≠ none)
    (h : BestInv (ltOf o) (meetsOf o) p s) :
    BestInv (ltOf o) (meetsOf o) (p ++ ts) (ts.foldl (stepTrial o) s) := by
  induction ts generalizing p s with
  | nil => simpa using h
  | cons t ts ih =>
    rw [List.foldl_cons, List.append_cons]
    apply ih _ _ (fun t' ht' => hnum t' (List.mem_cons_of_mem _ ht'))
    have h0 : BestInv (ltOf o) (meetsOf o) p { s with trials := s.trials + 1, lists := s.lists.push (classify t) t.name } :=
      h.congr rfl rfl rfl
    unfold stepTrial
    by_cases ha : avail t
    · rw [stepBest_eq, if_neg ha]
      cases hk : keyOf t with
      | none => exact absurd hk (hnum t List.mem_cons_self ha)
      | some v => exact bestInv_stepNum (ordOK_of o) h0 t v ha hk
    · rw [stepBest_unavail o _ t ha]
      exact h0.skip t ha

end

end Katib.Exp
