import Katib.Lemmas.ExpPlan
import Katib.Lemmas.Keys
import Katib.Lemmas.SugPlan
import Katib.Lemmas.TrialPlan
/-!
# A property of the status of every Trial, over every schedule

Trial statuses are written by the trial reconcile; the experiment reconcile creates Trials with the empty status, and the only
environment event that touches a status is early stopping, which appends EarlyStopped to a Trial that is not completed.
`trialStSched` is the `Sched` of a property `P` of Trial statuses (with the unique Trial keys, `KInv`, carried along): what is left to
show for a particular `P` is that the empty status has it, that the trial reconcile keeps it and that it survives the EarlyStopped
condition.
-/
namespace Katib.Ctl
open Katib Katib.Exp

def TrialStInv (P : TrialSt → Prop) (w : World) : Prop := ∀ t ∈ w.trials, P t.st

def TrialStJust (P : TrialSt → Prop) : Call → Prop
  | .trialStatus _ _ st => P st
  | .trialCreate t => P t.st
  | _ => True

theorem trialSt_same {P : TrialSt → Prop} {w w' : World} (e : w'.trials = w.trials) (h : TrialStInv P w) : TrialStInv P w' := by
  unfold TrialStInv; rw [e]; exact h

theorem trialSt_filter {P : TrialSt → Prop} {w : World} (p : TrialO → Bool) (h : TrialStInv P w) :
    TrialStInv P { w with trials := w.trials.filter p } :=
  fun t ht => h t (List.mem_filter.1 ht).1

theorem apply_pres_trialSt {P : TrialSt → Prop} {w w' : World} {c : Call} (hI : TrialStInv P w) (hJ : TrialStJust P c)
    (h : applyCall w c = .ok w') : TrialStInv P w' :=
  applyCall_trials (P := fun t => P t.st) h hI (fun hc => by subst hc; exact hJ) (fun hc _ _ _ => by subst hc; exact hJ)
    (fun _ _ h _ => h) (fun _ _ h _ => h)

theorem exec_trialSt {P : TrialSt → Prop} {w0 : World} (f : Faults) {p : Prog} (hp : p.All (TrialStJust P)) (hI : TrialStInv P w0) :
    TrialStInv P (exec f p w0 0 []).w :=
  exec_preserves f (fun _ _ _ => apply_pres_trialSt) p w0 0 [] hp hI

/-- the experiment reconcile writes no Trial status and creates Trials with the empty one -/
theorem expPlan_trialSt {P : TrialSt → Prop} (h0 : P {}) (v : World) (k : Key2) (now : Nat) : (expPlan v k now).All (TrialStJust P) :=
  expPlan_all fun _ _ _ hc => by
    cases hc with
    | trialCreate _ _ _ _ _ _ => exact h0
    | _ => trivial

theorem sugPlan_trialSt (P : TrialSt → Prop) (v : World) (k : Key2) (env : SugEnv) (now : Nat) : (sugPlan v k env now).All (TrialStJust P) :=
  sugPlan_all fun _ _ _ hc => by cases hc <;> trivial

/-- a property of Trial statuses that the empty status has, that the trial reconcile keeps when it holds in its view, and that
    survives the EarlyStopped condition on a Trial that is not completed, holds of every Trial (unique keys are carried along: they
    identify the Trial that is stopped early) -/
theorem trialStSched {P : TrialSt → Prop} (h0 : P {})
    (trial : ∀ v k now, TrialStInv P v → (trialPlan v k now).All (TrialStJust P))
    (stop : ∀ {t : TrialO} {c : TCond}, c.ty = .earlyStopped → tCompleted t = false → P t.st →
      P { t.st with conds := t.st.conds ++ [c] }) :
    Sched (fun _ => True) (fun _ w => KInv w ∧ TrialStInv P w) (fun _ _ => True) where
  refl _ := trivial
  trans _ _ := trivial
  push _ h := h
  plan {s p} f vE vT vS vD hp hI := by
    refine ⟨⟨exec_keys f p hI.cur.1, exec_trialSt f ?_ hI.cur.2⟩, trivial⟩
    cases hp with
    | exp k' => exact expPlan_trialSt h0 _ k' _
    | sug k' env => exact sugPlan_trialSt P _ k' env _
    | trial k' => exact trial _ k' _ (trialSt_same (assemble_trials ..) (hI.snap vT).1.2)
  env {s op} _ hop hI := by
    obtain ⟨hK, hP⟩ := hI.cur
    refine ⟨⟨stepWorld_keys hK op, ?_⟩, trivial⟩
    rcases stepWorld_trials_cases hop with h | ⟨k', t, _, ht, hnc, h⟩ | ⟨k', _, h | h⟩
    · exact trialSt_same h hP
    · rw [h]
      refine forall_updTrial hP (fun t1 h1 hk1 => ?_)
      cases nodup_map_inj hK h1 (findTrial_mem ht) (hk1.trans (findTrial_key ht).symm)
      exact stop rfl hnc (hP t h1)
    · rw [h]
      exact forall_updTrial hP (fun t ht _ => hP t ht)
    · rw [h]
      exact trialSt_filter _ hP

theorem trialSt_run {P : TrialSt → Prop} (h0 : P {})
    (trial : ∀ v k now, TrialStInv P v → (trialPlan v k now).All (TrialStJust P))
    (stop : ∀ {t : TrialO} {c : TCond}, c.ty = .earlyStopped → tCompleted t = false → P t.st →
      P { t.st with conds := t.st.conds ++ [c] })
    (es : List ExpInit) (ops : List Op) : TrialStInv P (run (Sim.init es) ops).cur :=
  ((trialStSched h0 trial stop).run_init es (fun _ _ => trivial) ⟨List.nodup_nil, fun _ h => nomatch h⟩).cur.2

end Katib.Ctl
