import Katib.Gen.Guards
import Katib.Model.ExpStatus
/-!
# C05: the model's classification of a Trial is the source's chain of tests

`Katib/Gen/Guards.lean` (regenerated on every run by `kvh extract guards`) holds, for each of the seven lists of
`updateTrialsSummary` (pkg/controller.v1beta1/experiment/util/status_util.go), the condition under which one iteration of its
loop appends the Trial to that list.  The model's `classify` puts a Trial into a class exactly when the corresponding condition
holds, and the seven conditions are exhaustive and mutually exclusive.
-/
namespace Katib.Gen
open Katib Katib.Exp

theorem C05_classification_guards_known :
    listKilledGuardUnknown = [] ∧ listFailedGuardUnknown = [] ∧ listSucceededGuardUnknown = [] ∧ listEarlyStoppedGuardUnknown = [] ∧
    listRunningGuardUnknown = [] ∧ listMetricsUnavailableGuardUnknown = [] ∧ listPendingGuardUnknown = [] ∧
    listKilledGuardSites = 1 ∧ listFailedGuardSites = 1 ∧ listSucceededGuardSites = 1 ∧ listEarlyStoppedGuardSites = 1 ∧
    listRunningGuardSites = 1 ∧ listMetricsUnavailableGuardSites = 1 ∧ listPendingGuardSites = 1 := by decide

def clsG (t : TrialV) (g : Bool → Bool → Bool → Bool → Bool → Bool → Bool → Bool → Bool) : Bool :=
  g t.killed t.failed t.succeeded t.earlyStopped t.running t.metricsUnavailable false false

theorem C05_classify_is_source (t : TrialV) :
    (classify t = .killed ↔ clsG t listKilledGuard = true) ∧
    (classify t = .failed ↔ clsG t listFailedGuard = true) ∧
    (classify t = .succeeded ↔ clsG t listSucceededGuard = true) ∧
    (classify t = .earlyStopped ↔ clsG t listEarlyStoppedGuard = true) ∧
    (classify t = .running ↔ clsG t listRunningGuard = true) ∧
    (classify t = .metricsUnavailable ↔ clsG t listMetricsUnavailableGuard = true) ∧
    (classify t = .pending ↔ clsG t listPendingGuard = true) := by
  unfold classify clsG listKilledGuard listFailedGuard listSucceededGuard listEarlyStoppedGuard listRunningGuard
    listMetricsUnavailableGuard listPendingGuard
  -- down the chain of tests: once one holds, the later ones do not matter
  cases t.killed
  · cases t.failed
    · cases t.succeeded
      · cases t.earlyStopped
        · cases t.running
          · cases t.metricsUnavailable <;> simp
          · simp
        · simp
      · simp
    · simp
  · simp

/-- **C05_guards_partition**: stated on the regenerated conditions alone — whatever combination of conditions a Trial carries
    (all 64), exactly one of the seven appends of the status loop is reached for it: the seven lists partition the Trials -/
theorem C05_guards_partition (killed failed succeeded earlyStopped running metricsUnavailable : Bool) :
    ([listKilledGuard, listFailedGuard, listSucceededGuard, listEarlyStoppedGuard, listRunningGuard,
      listMetricsUnavailableGuard, listPendingGuard].filter
        (fun g => g killed failed succeeded earlyStopped running metricsUnavailable false false)).length = 1 := by
  cases killed
  · cases failed
    · cases succeeded
      · cases earlyStopped
        · cases running
          · cases metricsUnavailable <;> rfl
          · rfl
        · rfl
      · rfl
    · rfl
  · rfl

theorem filter_class_eq_guard (ts : List TrialV) {c : Class} {g : Bool → Bool → Bool → Bool → Bool → Bool → Bool → Bool → Bool}
    (h : ∀ t, classify t = c ↔ clsG t g = true) :
    ts.filter (fun t => classify t = c) = ts.filter (fun t => clsG t g) :=
  List.filter_congr fun t _ => by rw [Bool.eq_iff_iff, decide_eq_true_eq]; exact h t

/-- for every list of Trials, the Trials whose class is `c` are those for which the regenerated guard of `c`'s list holds, in
    the same order (the loop appends in order, so each list is the corresponding sublist) -/
theorem C05_class_sublists_are_source (ts : List TrialV) :
    ts.filter (fun t => classify t = .killed) = ts.filter (fun t => clsG t listKilledGuard) ∧
    ts.filter (fun t => classify t = .failed) = ts.filter (fun t => clsG t listFailedGuard) ∧
    ts.filter (fun t => classify t = .succeeded) = ts.filter (fun t => clsG t listSucceededGuard) ∧
    ts.filter (fun t => classify t = .earlyStopped) = ts.filter (fun t => clsG t listEarlyStoppedGuard) ∧
    ts.filter (fun t => classify t = .running) = ts.filter (fun t => clsG t listRunningGuard) ∧
    ts.filter (fun t => classify t = .metricsUnavailable) = ts.filter (fun t => clsG t listMetricsUnavailableGuard) ∧
    ts.filter (fun t => classify t = .pending) = ts.filter (fun t => clsG t listPendingGuard) :=
  have h := C05_classify_is_source
  ⟨filter_class_eq_guard ts fun t => (h t).1, filter_class_eq_guard ts fun t => (h t).2.1,
   filter_class_eq_guard ts fun t => (h t).2.2.1, filter_class_eq_guard ts fun t => (h t).2.2.2.1,
   filter_class_eq_guard ts fun t => (h t).2.2.2.2.1, filter_class_eq_guard ts fun t => (h t).2.2.2.2.2.1,
   filter_class_eq_guard ts fun t => (h t).2.2.2.2.2.2⟩

end Katib.Gen
