import Katib.Lemmas.ExpPlan
import Katib.Lemmas.SugPlan
import Katib.Lemmas.SugSt
/-!
# C08 over whole schedules: `suggestionCount` equals the number of assignments, which never exceeds a number that was requested

`C08_count_and_bound_world`: for every list of simulator operations (no hypothesis on the schedule — budget edits, Trial
deletions, arbitrary lagging views, faults): the Suggestion of `k` in the current store has `suggestionCount = |assignments|`,
and either no assignment at all or some snapshot of the history in which `spec.requests` of that Suggestion was at least
`|assignments|`.  A status write carries the whole list: it is the list of the (possibly stale) Suggestion that was read,
or that list extended to exactly the `requests` of that same copy (the `appended` case of `SugWrites`), and every copy that can be read is a
snapshot of the history.
-/
namespace Katib.Ctl
open Katib Katib.Exp

def EverRequested (hs : Array World) (k : Key2) (n : Nat) : Prop :=
  n = 0 ∨ Ever hs fun h => ∃ sh, findSug h k = some sh ∧ (n : Int) ≤ sh.requests

def ROk (hs : Array World) (k : Key2) (st : SugSt) : Prop :=
  st.count = (st.names.length : Int) ∧ EverRequested hs k st.names.length

theorem expPlan_rjust (hs : Array World) (k : Key2) (v : World) (k' : Key2) (now : Nat) (hv : SugStInv (ROk hs k) k v) :
    (expPlan v k' now).All (SugStJust (ROk hs k) k) :=
  expPlan_all fun e _ c hc => by
    -- the clean-up and the restart change only the conditions of the Suggestion they read
    have keep : ∀ {s : SugO} {cs : List SCond}, findSug v e.key = some s → e.key = k → ROk hs k { s.st with conds := cs } :=
      fun hs0 hk => hv _ (hk ▸ hs0)
    cases hc with
    | cleanup _ _ hs0 _ => exact keep hs0
    | restart _ _ _ hs0 _ => exact keep hs0
    | sugCreate _ _ => exact fun _ => ⟨rfl, Or.inl rfl⟩
    | _ => trivial

theorem sugPlan_rjust (hs : Array World) (k : Key2) (v : World) (k' : Key2) (env : SugEnv) (now : Nat)
    (hv : SugStInv (ROk hs k) k v) (hin : ∀ s, findSug v k = some s → ∀ n : Nat, (n : Int) ≤ s.requests → EverRequested hs k n) :
    (sugPlan v k' env now).All (SugStJust (ROk hs k) k) :=
  sugPlan_all fun s hsg c hc => by
    cases hc with
    | status hw _ =>
      intro hk
      subst hk
      have hsg : findSug v s.key = some s := by rw [findSug_key hsg]; exact hsg
      obtain ⟨hcount, hever⟩ := hv s hsg
      cases hw with
      | appended _ _ _ hsize =>
        refine ⟨rfl, hin s hsg _ ?_⟩
        show (((s.st.names ++ freshNames s.key.name v.algoN _).length : Nat) : Int) ≤ s.requests
        rw [List.length_append, length_freshNames]
        simp only [Int.natCast_add]
        omega
      | _ => exact ⟨hcount, hever⟩
    | _ => trivial

/-- over every schedule: `suggestionCount` of Suggestion `k` is the number of its assignments, and that many were requested in
    some snapshot; the Suggestion a suggestion reconcile reads is the one of a snapshot -/
theorem countSched (k : Key2) : Sched (fun _ => True) (fun hs w => SugStInv (ROk hs k) k w) (fun _ _ => True) :=
  have view : ∀ {s : Sim}, SInv (fun hs w => SugStInv (ROk hs k) k w) (fun _ _ => True) s → ∀ vE vT vS vD,
      SugStInv (ROk s.hist k) k (assemble s vE vT vS vD) :=
    fun hI _ _ vS _ sg hsg => (hI.snap vS).1 sg (findSug_assemble .. ▸ hsg)
  sugStSched (P := fun hs => ROk hs k) k (fun w' h => ⟨h.1, h.2.imp id (Ever.push w')⟩)
    (fun {s} _ _ _ _ k' hI => expPlan_rjust s.hist k _ k' _ (view hI _ _ _ _))
    (fun {s} _ _ vS _ k' env hI => sugPlan_rjust s.hist k _ k' env _ (view hI _ _ _ _)
      fun sg hsg _ hle => Or.inr (hI.ever_snap vS ⟨sg, findSug_assemble .. ▸ hsg, hle⟩))

/-- **C08_count_and_bound_world**: over every schedule (no hypothesis): `suggestionCount` equals the number of assignments,
    and that number is 0 or was requested — some snapshot of the history holds the Suggestion with at least that many
    `spec.requests`. -/
theorem C08_count_and_bound_world (k : Key2) (es : List ExpInit) (ops : List Op) :
    let s := run (Sim.init es) ops
    ∀ sg, findSug s.cur k = some sg →
      sg.st.count = (sg.st.names.length : Int) ∧
      (sg.st.names.length = 0 ∨ ∃ (i : Nat) (h : World) (sh : SugO), s.hist[i]? = some h ∧ findSug h k = some sh ∧
        (sg.st.names.length : Int) ≤ sh.requests) := by
  intro s sg hsg
  obtain ⟨hc, hr⟩ :=
    ((countSched k).run_init es (fun _ _ => trivial) (fun _ h => nomatch h)).cur sg hsg
  refine ⟨hc, hr.imp id ?_⟩
  rintro ⟨i, h, hi, sh, hsh, hle⟩
  exact ⟨i, h, sh, hi, hsh, hle⟩

end Katib.Ctl
