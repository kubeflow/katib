import Katib.Lemmas.SugPlan
/-!
# C09 — Algorithm requests contain exactly the experiment's own trials

Statements about every `GetSuggestions` call on every path of `Katib.Ctl.sugPlan`, for every view `v` (any cluster
content: other experiments, other namespaces, equal names).
-/
namespace Katib.Ctl
open Katib

/-- C09_selection: the trials a reconcile reads for experiment `k` are exactly the Trials of the view that live in
    `k`'s namespace *and* carry `k`'s experiment label. -/
theorem C09_selection (v : World) (k : Key2) (t : TrialO) :
    t ∈ trialsOf v k ↔ t ∈ v.trials ∧ t.key.ns = k.ns ∧ t.exp = k.name :=
  mem_trialsOf

/-- C09_sent: a name is sent iff it names an own trial that is neither metrics-unavailable nor early-stopped without observation. -/
theorem C09_sent (ts : List TrialO) (n : String) :
    n ∈ sentTrials ts ↔ ∃ t ∈ ts, t.key.name = n ∧ tHas t .metricsUnavailable = false ∧
      ¬ (tHas t .earlyStopped = true ∧ obsAvailable t.st = false) := by
  have keep (a b c : Bool) : (!a && !(b && !c)) = true ↔ a = false ∧ ¬ (b = true ∧ c = false) := by
    cases a <;> cases b <;> cases c <;> simp
  unfold sentTrials
  simp only [(sortS_perm _).mem_iff, List.mem_map, List.mem_filter, keep]
  exact ⟨fun ⟨t, ⟨ht, h⟩, hn⟩ => ⟨t, ht, hn, h⟩, fun ⟨t, ht, hn, h⟩ => ⟨t, ⟨ht, h⟩, hn⟩⟩

/-- C09_request: every `GetSuggestions` request of a reconcile of suggestion `k` carries exactly the eligible own
    trials (namespace and label) of the view, `currentRequestNumber = requests − suggestionCount` and
    `totalRequestNumber = requests`. -/
theorem C09_request (v : World) (k : Key2) (env : SugEnv) (now : Nat) (s : SugO) (hs : findSug v k = some s) :
    (sugPlan v k env now).All (fun c => match c with
      | .rpcGetSuggestions e cur total sent _ _ =>
        e = k.name ∧ cur = s.requests - s.st.count ∧ total = s.requests ∧ sent = sentTrials (trialsOf v k)
      | _ => True) := by
  have hk : k = s.key := (findSug_key hs).symm
  subst hk
  exact (sugPlan_spec env now hs).mono fun c hc => by
    cases hc with
    | getSuggestions _ _ _ | getSuggestionsErr _ _ _ => exact ⟨rfl, rfl, rfl, rfl⟩
    | _ => trivial

/-- C09_isolation: no Trial of another namespace or of another experiment is ever in a request. -/
theorem C09_isolation (v : World) (k : Key2) (env : SugEnv) (now : Nat) (s : SugO) (hs : findSug v k = some s) :
    (sugPlan v k env now).All (fun c => match c with
      | .rpcGetSuggestions _ _ _ sent _ _ => ∀ n ∈ sent, ∃ t ∈ v.trials, t.key.name = n ∧ t.key.ns = k.ns ∧ t.exp = k.name
      | _ => True) :=
  (C09_request v k env now s hs).mono fun c hc => by
    cases c with
    | rpcGetSuggestions _ _ _ sent _ _ =>
      intro x hx
      rw [hc.2.2.2, C09_sent] at hx
      obtain ⟨t, ht, hn, _⟩ := hx
      obtain ⟨h1, h2, h3⟩ := (C09_selection v k t).mp ht
      exact ⟨t, h1, hn, h2, h3⟩
    | _ => trivial

/-! Non-vacuity: two equally named experiments in two namespaces; only the own trial is sent. -/
example :
    let mk (ns n : String) : TrialO := { key := ⟨ns, n⟩, exp := "exp", retain := false, push := false, objType := .maximize }
    sentTrials (trialsOf { trials := [mk "ns1" "exp-t1", mk "ns2" "exp-t2"] } ⟨"ns2", "exp"⟩) = ["exp-t2"] := by decide

end Katib.Ctl
