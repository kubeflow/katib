import Katib.Lemmas.ExpStatus
/-!
# C03 — Experiment verdict is correct, exclusive and stable  (pure part: one status update)

Theorems about `Katib.Exp.updateCondition` / `updateStatus` (models of `UpdateExperimentStatusCondition`
and `UpdateExperimentStatus`).  Stability: of one reconcile in `Katib/Props/C03Ctl.lean`, over whole schedules in `Katib/Props/C03Frozen.lean`.
-/
namespace Katib.Exp
open Katib

/-- the verdict the property prescribes, as a function of the three rules (goal > failed > max-trials > suggestion end) -/
inductive Verdict | succeeded (reason : String) | failed | running
  deriving DecidableEq, Repr

def verdict (b : Budget) (c : Counts) (goalReached sugDone : Bool) : Verdict :=
  if goalReached then .succeeded rGoal
  else if failRule b c then .failed
  else if maxRule b c then .succeeded rMaxTrials
  else if sugDone && c.active == 0 then .succeeded rSugEnd
  else .running

theorem updateCondition_eq (b : Budget) (c : Counts) (s : Status) (goal sug : Bool) (now : Nat) :
    updateCondition b c s goal sug now =
      match verdict b c goal sug with
      | .succeeded r => { conds := markSucceeded s.conds r now, completion := some now }
      | .failed => { conds := markFailed s.conds rFailed now, completion := some now }
      | .running => { s with conds := markRunning s.conds now } := by
  unfold updateCondition verdict
  cases goal with
  | true => rfl
  | false =>
    cases failRule b c with
    | true => rfl
    | false =>
      cases maxRule b c with
      | true => rfl
      | false => cases (sug && c.active == 0) <;> rfl

theorem not_completed {cs : List ECond} (h : isCompleted cs = false) : isSucceeded cs = false ∧ isFailed cs = false := by
  unfold isCompleted at h
  simpa using h

/-- once `maxTrialCount` is reached, one of the first three rules of `UpdateExperimentStatusCondition` writes a verdict -/
theorem isCompleted_of_maxRule {b : Budget} {c : Counts} (s : Status) (goal sug : Bool) (now : Nat) (h : maxRule b c = true) :
    isCompleted (updateCondition b c s goal sug now).conds = true := by
  unfold updateCondition
  rw [h]
  cases goal with
  | true => exact Bool.or_eq_true_iff.2 (.inl (markSucceeded_spec ..).1)
  | false =>
    cases failRule b c with
    | true => exact Bool.or_eq_true_iff.2 (.inr (markFailed_spec ..).1)
    | false => exact Bool.or_eq_true_iff.2 (.inl (markSucceeded_spec ..).1)

/-- C03_verdict: the conditions written are exactly those of the prescribed verdict (for an experiment that had none). -/
theorem C03_verdict (b : Budget) (c : Counts) (s : Status) (goal sug : Bool) (now : Nat)
    (hnc : isCompleted s.conds = false) :
    let s' := updateCondition b c s goal sug now
    match verdict b c goal sug with
    | .succeeded r => isSucceeded s'.conds = true ∧ isFailed s'.conds = false ∧
                      Cond.reasonOf s'.conds .succeeded = some r ∧ s'.completion = some now
    | .failed => isFailed s'.conds = true ∧ isSucceeded s'.conds = false ∧
                 Cond.reasonOf s'.conds .failed = some rFailed ∧ s'.completion = some now
    | .running => isCompleted s'.conds = false ∧ Cond.has s'.conds .running = true ∧ s'.completion = s.completion := by
  obtain ⟨hs, hf⟩ := not_completed hnc
  simp only [updateCondition_eq]
  cases verdict b c goal sug with
  | succeeded r =>
    obtain ⟨a, b', _, d⟩ := markSucceeded_spec s.conds r now
    exact ⟨a, b'.trans hf, d, rfl⟩
  | failed =>
    obtain ⟨a, b', _, d⟩ := markFailed_spec s.conds rFailed now
    exact ⟨a, b'.trans hs, d, rfl⟩
  | running =>
    obtain ⟨a, b', c'⟩ := markRunning_spec s.conds now
    refine ⟨?_, c', rfl⟩
    unfold isCompleted; rw [a, b', hs, hf]; rfl

/-- C03_exclusive: Succeeded and Failed are never both true after an update of a not-yet-completed experiment. -/
theorem C03_exclusive (b : Budget) (c : Counts) (s : Status) (goal sug : Bool) (now : Nat)
    (hnc : isCompleted s.conds = false) :
    ¬ (isSucceeded (updateCondition b c s goal sug now).conds = true ∧
       isFailed (updateCondition b c s goal sug now).conds = true) := by
  have h := C03_verdict b c s goal sug now hnc
  intro ⟨h1, h2⟩
  cases hv : verdict b c goal sug with
  | succeeded r => rw [hv] at h; simp only at h; rw [h.2.1] at h2; cases h2
  | failed => rw [hv] at h; simp only at h; rw [h.2.1] at h1; cases h1
  | running =>
    rw [hv] at h; simp only at h
    unfold isCompleted at h; rw [h1] at h; simp at h

/-- C03_running_false: once a verdict exists Running is not true. -/
theorem C03_running_false (b : Budget) (c : Counts) (s : Status) (goal sug : Bool) (now : Nat)
    (hdone : isCompleted (updateCondition b c s goal sug now).conds = true)
    (hnc : isCompleted s.conds = false) :
    Cond.has (updateCondition b c s goal sug now).conds .running = false := by
  rw [updateCondition_eq] at hdone ⊢
  revert hdone
  cases verdict b c goal sug with
  | succeeded r => exact fun _ => (markSucceeded_spec _ _ _).2.2.1
  | failed => exact fun _ => (markFailed_spec _ _ _).2.2.1
  | running =>
    intro hdone
    obtain ⟨a, b', _⟩ := markRunning_spec s.conds now
    obtain ⟨hs, hf⟩ := not_completed hnc
    unfold isCompleted at hdone
    rw [a, b', hs, hf] at hdone
    cases hdone

/-- C03_frozen: a status update never touches verdict, reason or completion time of a completed experiment. -/
theorem C03_frozen (o : Objective) (b : Budget) (ts : List TrialV) (s : Status) (now : Nat)
    (h : isCompleted s.conds = true) : (updateStatus o b ts s now).2 = s := by
  unfold updateStatus; simp [h]

/-- precedence, spelled out: goal beats failure beats max-trials -/
theorem C03_precedence (b : Budget) (c : Counts) (sug : Bool) :
    verdict b c true sug = .succeeded rGoal ∧
    (failRule b c = true → verdict b c false sug = .failed) ∧
    (failRule b c = false → maxRule b c = true → verdict b c false sug = .succeeded rMaxTrials) := by
  refine ⟨by simp [verdict], ?_, ?_⟩
  · intro h; simp [verdict, h]
  · intro h1 h2; simp [verdict, h1, h2]

/-- the rules are the ones the property names -/
theorem C03_rules (b : Budget) (c : Counts) :
    (failRule b c = true ↔ ∃ k, b.maxFailed = some k ∧ c.failed + c.metricsUnavailable ≠ 0 ∧ k ≤ c.failed + c.metricsUnavailable) ∧
    (maxRule b c = true ↔ ∃ m, b.maxTrials = some m ∧
        m ≤ c.succeeded + c.failed + c.killed + c.earlyStopped + c.metricsUnavailable) := by
  unfold failRule maxRule Counts.failedish Counts.completed
  constructor
  · cases b.maxFailed with
    | none => simp
    | some k => simp
  · cases b.maxTrials with
    | none => simp
    | some m => simp

/-! Non-vacuity -/
example : isCompleted ([⟨.created, true, rCreated, 0⟩, ⟨.running, true, rRunning, 0⟩] : List ECond) = false := by decide
example :
    (updateCondition ⟨some 3, some 2⟩ ⟨1, 1, 0, 0, 1, 0, 0⟩ ⟨[⟨.created, true, rCreated, 0⟩, ⟨.running, true, rRunning, 0⟩], none⟩
      false false 7).conds
    = [⟨.created, true, rCreated, 0⟩, ⟨.running, false, rRunning, 7⟩, ⟨.failed, true, rFailed, 7⟩] := by decide

end Katib.Exp
