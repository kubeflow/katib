import Katib.Gen.ListSites
/-!
# C09 (and the trial budget): which Trials a controller takes for "the Experiment's own"

`Katib/Gen/ListSites.lean` is regenerated from the source on every run: every `List` call of the three controllers that
selects by labels, with the shape of its selector.  The Trials of an Experiment are those carrying its name under the
reserved label `katib.kubeflow.org/experiment`; the Experiment's other labels are free-form metadata that may change after
its Trials were created, so a selector built from them loses Trials (the defect repaired by 13d41b4).
-/
namespace Katib.Gen

def trialListSites : List ListSite := listSites.filter (fun s => s.list == "&trialsv1beta1.TrialList{}")

/-- every label-selected Trial list of the controllers selects by the reserved experiment-name label only -/
theorem C09_trial_selectors_reserved : ∀ s ∈ trialListSites, s.kind = "reserved" := by decide

/-- the Trial lists are those of the experiment controller and of the suggestion controller (a new or vanished call site is a
    reason to look again) -/
theorem C09_trial_list_sites : trialListSites.map (·.fn) = ["ReconcileExperiment", "ReconcileSuggestion"] := by rfl

end Katib.Gen
