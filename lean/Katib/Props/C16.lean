import Katib.Lemmas.SugPlan
import Katib.Props.C03Ctl
/-!
# C16 — Resume policy governs algorithm-service lifetime; restart only when allowed

Statements about `Katib.Ctl.expPlan` (clean-up, restart) and `Katib.Ctl.sugPlan` (what a Succeeded Suggestion does),
for every view, fault mask and abort point.
-/
namespace Katib.Ctl
open Katib Katib.Exp

/-- C16_cleanup: for a completed Experiment with resumePolicy Never or FromVolume whose Suggestion is neither completed
    nor restarting, the reconcile starts by marking the Suggestion Succeeded (and stops if that write fails). -/
theorem C16_cleanup (v : World) (k : Key2) (now : Nat) (e : ExpO) (s : SugO) (he : findExp v k = some e)
    (hs : findSug v k = some s) (hfin : e.fin = true) (hdel : e.deleted = false)
    (hc : isCompleted e.st.conds = true) (hres : e.cfg.resume = .never ∨ e.cfg.resume = .fromVolume)
    (hopen : (sCompleted s || sRestarting s) = false) :
    ∃ next, expPlan v k now =
      .step (.sugStatus k s.rv { s.st with conds := sugMarkSucceeded s.st.conds rSugExpSucceeded now }) next (.done .err) := by
  rw [expPlan_eq now he]
  unfold expCleanup
  simp only [hfin, hdel, hc, hs, hres, hopen, Bool.not_true, Bool.and_false, Bool.false_eq_true, if_false, Bool.false_and, if_true]
  split
  · exact ⟨_, rfl⟩
  · split <;> exact ⟨_, rfl⟩

theorem sHas_markSucceeded (cs : List SCond) (r : String) (now : Nat) :
    Cond.has (sugMarkSucceeded cs r now) .succeeded = true := by
  unfold sugMarkSucceeded; exact Cond.has_set_self

/-- C16_longrunning: with resumePolicy LongRunning the experiment controller never touches the Suggestion's status. -/
theorem C16_longrunning (v : World) (k : Key2) (now : Nat) (e : ExpO) (he : findExp v k = some e)
    (hres : e.cfg.resume = .longRunning) :
    (expPlan v k now).All (fun c => match c with | .sugStatus _ _ _ => False | _ => True) :=
  (expPlan_spec now he).mono fun c hc => by
    cases hc with
    | cleanup _ hr _ _ => rw [hres] at hr; rcases hr with h | h <;> cases h
    | restart _ _ hr _ _ => rw [hres] at hr; cases hr
    | _ => trivial

/-- C16_restart_only_if: a reconcile withdraws or changes the verdict of a completed Experiment only under the restart
    guard: restartable (Succeeded by MaxTrialsReached under LongRunning / FromVolume) and maxTrialCount raised above the
    number of trials (or removed). -/
theorem C16_restart_only_if (v : World) (k : Key2) (now : Nat) (e : ExpO) (he : findExp v k = some e)
    (hfin : e.fin = true) (hdel : e.deleted = false) (hc : isCompleted e.st.conds = true)
    (hcr : Cond.has e.st.conds .created = true)
    (hchange : ¬ (expPlan v k now).All (fun c => match c with
      | .expStatus _ _ st' => st'.conds = e.st.conds ∧ st'.completion = e.st.completion | _ => True)) :
    restartGuard e = true ∧ restartable e.st.conds e.cfg.resume = true := by
  cases hr : restartGuard e with
  | false =>
    exact absurd (C03_stable v k now e he hfin hdel hc hcr hr) hchange
  | true =>
    refine ⟨rfl, ?_⟩
    unfold restartGuard at hr
    simp only [Bool.and_eq_true] at hr
    exact hr.1

/-- restartable = Succeeded with reason MaxTrialsReached under LongRunning or FromVolume -/
theorem C16_restartable_iff (cs : List ECond) (r : Resume) :
    restartable cs r = true ↔ isSucceeded cs = true ∧ Cond.reasonOf cs .succeeded = some rMaxTrials ∧ (r = .longRunning ∨ r = .fromVolume) := by
  unfold restartable
  cases r <;> simp

/-- C16_no_rpc_when_succeeded: a Succeeded Suggestion causes no algorithm call; its reconcile only removes the
    Deployment and the Service it still sees. -/
theorem C16_no_rpc_when_succeeded (v : World) (k : Key2) (env : SugEnv) (now : Nat) (s : SugO)
    (hs : findSug v k = some s) (hsucc : sHas s .succeeded = true) :
    (sugPlan v k env now).All (fun c => match c with
      | .deployDelete k' => k' = infraKey k
      | .svcDelete k' => k' = infraKey k
      | _ => False) := by
  rw [sugPlan_eq env now hs, if_pos hsucc]
  exact all_sugTeardown.2 ⟨fun _ => rfl, fun _ => rfl⟩

/-- the algorithm service of a Suggestion that is not Succeeded is never torn down -/
theorem C16_delete_only_when_succeeded (v : World) (k : Key2) (env : SugEnv) (now : Nat) (s : SugO)
    (hs : findSug v k = some s) (hns : sHas s .succeeded = false) :
    (sugPlan v k env now).All (fun c => match c with
      | .deployDelete _ => False
      | .svcDelete _ => False
      | _ => True) :=
  (sugPlan_spec env now hs).mono fun c hc => by
    cases hc with
    | deployDelete h _ | svcDelete h _ => exact nomatch hns.symm.trans h
    | _ => trivial

/-- with FromVolume the volume claim is only ever created, never deleted: no call of any controller deletes a PVC
    (there is no such call in the model's vocabulary), and the suggestion reconcile creates it before anything else -/
theorem C16_volume_first (v : World) (s : SugO) (env : SugEnv) (now : Nat) (hres : s.resume = .fromVolume)
    (habs : v.pvcs.contains (infraKey s.key) = false) :
    ∃ next, sugReconcile v s env now = .step (.pvcCreate (infraKey s.key)) next (sugErr s s.st) := by
  unfold sugReconcile
  simp only [hres, if_true]
  unfold createIfAbsent
  simp only [habs, Bool.false_eq_true, if_false]
  exact ⟨_, rfl⟩

/-! Non-vacuity -/
example : restartable [⟨.created, true, rCreated, 0⟩, ⟨.running, false, rRunning, 3⟩, ⟨.succeeded, true, rMaxTrials, 3⟩] .fromVolume = true := by
  decide
example : restartable [⟨.created, true, rCreated, 0⟩, ⟨.running, false, rRunning, 3⟩, ⟨.succeeded, true, rGoal, 3⟩] .fromVolume = false := by
  decide

end Katib.Ctl
