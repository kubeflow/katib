import Katib.Props.C04Quiescent
/-!
# C07 at quiescence: the run object of a completed Trial is there iff `retain` says so

`C07_quiescent_cleanup`: for **every** store in which the trial controller has no write to issue for Trial `k` (plan computed
on live reads) and the Trial is not being deleted: the Trial holds its finalizer and is Created; if it is completed and
`retain` is false its run object is gone; and if it is not completed its run object exists (a missing one would be created).
`C07_retained_not_deleted`: the plan of a completed Trial with `retain` never contains a delete of the run object.
-/
namespace Katib.Ctl
open Katib Katib.Exp

theorem C07_quiescent_cleanup (w : World) (k : Key2) (now : Nat) (t : TrialO) (ht : findTrial w k = some t)
    (hd : t.deleted = false) (q : (trialPlan w k now).noWrites) :
    t.fin = true ∧ tHas t .created = true ∧
    (tCompleted t = true → t.retain = false → findJob w k = none) ∧
    (tCompleted t = false → (findJob w k).isSome = true) := by
  obtain ⟨hf, hcr, q⟩ := nw_trialPlan ht hd q
  unfold trialReconcileJob at q
  refine ⟨hf, hcr, fun hc hr => ?_, fun hc => ?_⟩
  · cases hj : findJob w k with
    | none => rfl
    | some j =>
      rw [hj, hc, hr] at q
      exact (nw_write q rfl).elim
  · cases hj : findJob w k with
    | some j => rfl
    | none =>
      rw [hj, hc] at q
      exact (nw_write q rfl).elim

/-- with `retain` the trial controller's plan never deletes the run object -/
theorem C07_retained_not_deleted (v : World) (k : Key2) (now : Nat) (t : TrialO) (ht : findTrial v k = some t)
    (hr : t.retain = true) : (trialPlan v k now).All (fun c => match c with | .jobDelete _ => False | _ => True) :=
  (trialPlan_spec now ht).mono fun c hc => by
    cases hc with
    | jobDelete _ _ _ hr' =>
      rw [hr] at hr'
      cases hr'
    | _ => trivial

end Katib.Ctl
