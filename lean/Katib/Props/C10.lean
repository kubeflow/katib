import Katib.Model.Convert
/-!
# C10 — Experiment/Trial resources reach algorithm services without loss

Theorems about `Katib.Conv.convertExperiment/convertTrials` (models of `ConvertExperiment/ConvertTrials`) and, by
`decide`, about the enum tables that the translator regenerates from the converter's `switch` statements on every run.
-/
namespace Katib.Conv
open Katib.Gen

/-! ### enum tables (regenerated) -/

/-- a row maps a constant to the constant of the same name on the other side (names compared on their upper-cased
    alphanumeric characters, which the translator emits as `goNorm` / `protoNorm`) -/
def rowNamed (r : EnumRow) : Bool := r.goNorm.isSuffixOf r.protoNorm || r.protoNorm.isSuffixOf r.goNorm

/-- C10_enum_named: every `case` of every converter switch returns the equally named constant. -/
theorem C10_enum_named : enumRows.all rowNamed = true := by decide +kernel

/-- C10_enum_injective: within one switch no two cases share a source or a target constant. -/
theorem C10_enum_injective :
    enumRows.all (fun r => (enumRows.filter (fun r' => r'.fn = r.fn ∧ (r'.goValue = r.goValue ∨ r'.proto = r.proto))).length == 1) = true := by
  decide +kernel

theorem find?_of_unique {α : Type} {l : List α} {p q : α → Bool} {a : α} (ha : a ∈ l) (hq : q a = true)
    (hu : (l.filter q).length = 1) (hpa : p a = true) (hpq : ∀ x, p x = true → q x = true) : l.find? p = some a := by
  obtain ⟨c, hc⟩ := List.length_eq_one_iff.mp hu
  have only : ∀ x ∈ l, q x = true → x = c := fun x hx hqx =>
    List.mem_singleton.mp (hc ▸ List.mem_filter.mpr ⟨hx, hqx⟩)
  cases h : l.find? p with
  | none => exact absurd hpa (by simpa using List.find?_eq_none.mp h a ha)
  | some b =>
    rw [only a ha hq, only b (List.mem_of_find?_eq_some h) (hpq b (List.find?_some h))]

/-- C10_enum_roundtrip: reading the proto constant back yields the source value (the conversion loses nothing on the
    declared constants that have a case).  A consequence of `C10_enum_injective`: both searches can only find the row itself. -/
theorem C10_enum_roundtrip : enumRows.all (fun r => enumBack r.fn (enumConv r.fn r.goValue) == some r.goValue) = true := by
  rw [List.all_eq_true]
  intro r hr
  have hu := List.all_eq_true.mp C10_enum_injective r hr
  rw [beq_iff_eq] at hu
  have h1 : enumRows.find? (fun r' => r'.fn = r.fn ∧ r'.goValue = r.goValue) = some r :=
    find?_of_unique hr (by simp) hu (by simp) (by simp +contextual)
  have h2 : enumRows.find? (fun r' => r'.fn = r.fn ∧ r'.proto = r.proto) = some r :=
    find?_of_unique hr (by simp) hu (by simp) (by simp +contextual)
  unfold enumConv enumBack
  rw [h1]
  simp only [h2, Option.map_some, beq_self_eq_true]

/-- declared constants that deliberately have no case: the `unknown` members, and MetricsUnavailable (such Trials are not sent) -/
def uncoveredAllowed : List String := ["ParameterTypeUnknown", "DistributionUnknown", "ObjectiveTypeUnknown", "TrialMetricsUnavailable"]

def fnOfType : String → String
  | "ParameterType" => "convertParameterType"
  | "Distribution" => "convertDistribution"
  | "ObjectiveType" => "convertObjectiveType"
  | "TrialConditionType" => "convertTrialConditionType"
  | _ => ""

/-- C10_enum_total: every declared constant of the four source enum types has a case, except the allow-listed ones. -/
theorem C10_enum_total :
    (goConsts.filter (fun c => fnOfType c.1 != "")).all (fun c =>
      uncoveredAllowed.contains c.2.1 || enumRows.any (fun r => r.fn = fnOfType c.1 ∧ r.goConst = c.2.1 ∧ r.goValue = c.2.2)) = true := by
  decide +kernel

/-- every target constant (those of `convertComparison` aside) occurs in an enum of api.proto -/
theorem C10_enum_targets_exist :
    (enumRows.filter (fun r => r.fn != "convertComparison")).all (fun r =>
      protoEnums.any (fun e => e.2.contains r.protoSuffix)) = true := by decide +kernel

/-! ### settings: what the service returned earlier overrides the spec -/

def lookup (l : List (String × String)) (n : String) : Option String := (l.find? (fun a => a.1 = n)).map (·.2)

def names (l : List (String × String)) : List String := l.map (·.1)

theorem lookup_cons (a : String × String) (r : List (String × String)) (m : String) :
    lookup (a :: r) m = if a.1 = m then some a.2 else lookup r m := by
  unfold lookup
  rw [List.find?_cons]
  by_cases h : a.1 = m <;> simp [h]

theorem lookup_append (l l' : List (String × String)) (m : String) :
    lookup (l ++ l') m = (lookup l m).or (lookup l' m) := by
  unfold lookup
  rw [List.find?_append, Option.map_or]

/-- the test by which `overlayStep` chooses between its two branches -/
theorem any_name_iff {l : List (String × String)} {n : String} : l.any (fun a => a.1 = n) = true ↔ n ∈ names l := by
  simp only [names, List.any_eq_true, List.mem_map, decide_eq_true_eq]

theorem lookup_eq_none (l : List (String × String)) (m : String) (h : m ∉ names l) : lookup l m = none := by
  unfold lookup
  rw [Option.map_eq_none_iff, List.find?_eq_none]
  intro x hx hx'
  exact h (List.mem_map.mpr ⟨x, hx, of_decide_eq_true hx'⟩)

theorem lookup_setFirst (l : List (String × String)) (n v m : String) (h : n ∈ names l) :
    lookup (setFirst n v l) m = if n = m then some v else lookup l m := by
  induction l with
  | nil => cases h
  | cons a r ih =>
    rw [setFirst]
    by_cases ha : a.1 = n
    · rw [if_pos ha, lookup_cons, lookup_cons, ha]
      by_cases hm : n = m
      · rw [if_pos hm, if_pos hm]
      · rw [if_neg hm, if_neg hm, if_neg hm]
    · rw [if_neg ha, lookup_cons, lookup_cons, ih ((List.mem_cons.mp h).resolve_left (Ne.symm ha))]
      by_cases hm : a.1 = m
      · rw [if_pos hm, if_neg (fun e => ha (hm.trans e.symm)), if_pos hm]
      · rw [if_neg hm, if_neg hm]

theorem names_setFirst (n v : String) (l : List (String × String)) : names (setFirst n v l) = names l := by
  induction l with
  | nil => rfl
  | cons a r ih =>
    unfold setFirst
    split
    · rfl
    · exact congrArg (a.1 :: ·) ih

theorem lookup_overlayStep (acc : List (String × String)) (s : String × String) (m : String) :
    lookup (overlayStep acc s) m = if s.1 = m then some s.2 else lookup acc m := by
  unfold overlayStep
  split
  · rename_i h
    exact lookup_setFirst acc s.1 s.2 m (any_name_iff.mp h)
  · rename_i h
    rw [lookup_append, lookup_cons]
    split
    · rename_i hs
      rw [lookup_eq_none acc m (hs ▸ mt any_name_iff.mpr h)]
      rfl
    · exact Option.or_none

theorem nodup_overlayStep (acc : List (String × String)) (s : String × String) (h : (names acc).Nodup) :
    (names (overlayStep acc s)).Nodup := by
  unfold overlayStep
  split
  · rw [names_setFirst]
    exact h
  · rename_i hn
    rw [names, List.map_append, List.nodup_append]
    refine ⟨h, List.pairwise_singleton _ _, ?_⟩
    intro a ha b hb hab
    cases List.mem_singleton.mp hb
    cases hab
    exact hn (any_name_iff.mpr ha)

/-- C10_settings_override: in the request, a setting carries the value the service returned last for it, else the
    Experiment's own value. -/
theorem C10_settings_override (spec sug : List (String × String)) (m : String) :
    lookup (overlaySettings spec sug) m = match lookup sug.reverse m with | some v => some v | none => lookup spec m := by
  unfold overlaySettings
  induction sug generalizing spec with
  | nil => rfl
  | cons s sug ih =>
    rw [List.foldl_cons, ih, lookup_overlayStep, List.reverse_cons, lookup_append, lookup_cons]
    cases lookup sug.reverse m with
    | some v => rfl
    | none => by_cases hs : s.1 = m <;> simp [hs, lookup]

/-- the status keeps one entry per name -/
theorem C10_status_names_nodup (status reply : List (String × String)) (hst : (names status).Nodup) :
    (names (updateSettings status reply)).Nodup := by
  unfold updateSettings overlaySettings
  induction reply generalizing status with
  | nil => exact hst
  | cons s reply ih => exact ih _ (nodup_overlayStep status s hst)

theorem lookup_iff_mem (l : List (String × String)) (h : (names l).Nodup) (m v : String) : lookup l m = some v ↔ (m, v) ∈ l := by
  induction l with
  | nil => simp [lookup]
  | cons a r ih =>
    rw [names, List.map_cons, List.nodup_cons] at h
    rw [lookup_cons, List.mem_cons]
    by_cases ha : a.1 = m
    · rw [if_pos ha, Option.some.injEq]
      refine ⟨fun hv => .inl (by rw [← ha, ← hv]), fun hmv => hmv.elim (fun e => by rw [← e]) fun hmem => ?_⟩
      exact absurd (List.mem_map.mpr ⟨(m, v), hmem, ha.symm⟩) h.1
    · rw [if_neg ha, ih h.2]
      exact ⟨.inr, fun hmv => hmv.resolve_left fun e => ha (by rw [← e])⟩

/-- with one entry per name a lookup is a membership test, so it does not matter from which end the list is searched -/
theorem lookup_reverse (l : List (String × String)) (h : (names l).Nodup) (m : String) : lookup l.reverse m = lookup l m := by
  have hr : (names l.reverse).Nodup := by
    rw [names, List.map_reverse]
    exact List.pairwise_reverse.mpr (h.imp Ne.symm)
  ext v
  rw [lookup_iff_mem _ hr, lookup_iff_mem _ h, List.mem_reverse]

/-- C10_settings_rounds: across sync rounds — the status merges what the service returned (`updateAlgorithmSettings`), the
    next request overlays it on the spec: for every name the service returned in its last reply, the next request
    carries exactly that value (the status holding one entry per name). -/
theorem C10_settings_rounds (spec status reply : List (String × String)) (m v : String)
    (hst : (names status).Nodup) (h : lookup reply.reverse m = some v) :
    lookup (overlaySettings spec (updateSettings status reply)) m = some v := by
  have hu : lookup (updateSettings status reply) m = some v := by
    unfold updateSettings
    rw [C10_settings_override, h]
  rw [C10_settings_override, lookup_reverse _ (C10_status_names_nodup status reply hst), hu]

/-- C10_fields: names, metric names, settings of early stopping, budget numbers arrive unchanged (absent numbers as 0). -/
theorem C10_fields (e : ExpSpec) (s : List (String × String)) :
    let p := convertExperiment e s
    p.name = e.name ∧ p.algorithm = e.algorithm ∧ p.metric = e.objective.metric ∧ p.additional = e.objective.additional ∧
    p.earlyStopping = e.earlyStopping ∧ p.parallel = e.parallel.getD 0 ∧ p.maxTrials = e.maxTrials.getD 0 ∧
    p.goal = e.objective.goal.getD "0" := by
  simp [convertExperiment]

/-- C10_params: every parameter arrives, in order, with its name, min, max, step and list unchanged. -/
theorem C10_params (e : ExpSpec) (s : List (String × String)) :
    (convertExperiment e s).params.map (fun p => (p.name, p.fs.min, p.fs.max, p.fs.step, p.fs.list)) =
    e.params.map (fun p => (p.name, p.fs.min, p.fs.max, p.fs.step, p.fs.list)) ∧
    (convertExperiment e s).params.map (fun p => (p.ptype, p.fs.distribution)) =
    e.params.map (fun p => (enumConv "convertParameterType" p.ptype, enumConv "convertDistribution" p.fs.distribution)) := by
  simp [convertExperiment, List.map_map, Function.comp_def, convParam, convFS]

/-- C10_nas: the NAS configuration arrives with layers (absent = 0), sizes and every operation's type and parameter names in order. -/
theorem C10_nas (e : ExpSpec) (s : List (String × String)) (n : NasConfig) (h : e.nas = some n) :
    ∃ pn, (convertExperiment e s).nas = some pn ∧ pn.numLayers = some (n.numLayers.getD 0) ∧ pn.inputSizes = n.inputSizes ∧
      pn.outputSizes = n.outputSizes ∧ pn.operations.map (·.opType) = n.operations.map (·.opType) ∧
      pn.operations.map (fun o => o.params.map (·.name)) = n.operations.map (fun o => o.params.map (·.name)) := by
  refine ⟨convNas n, by simp [convertExperiment, h], rfl, rfl, rfl, ?_, ?_⟩
  · simp [convNas, List.map_map, Function.comp_def]
  · simp [convNas, List.map_map, Function.comp_def, convParam]

/-- C10_metric_value: a trial metric is reported with the value its strategy selects, falling back to latest. -/
theorem C10_metric_value (strategies : List (String × String)) (m : MetricObs) (st : String)
    (h : (strategies.reverse.find? (fun s => s.1 = m.name)).map (·.2) = some st) :
    metricValue strategies m =
      if st = "min" then (if m.min = unavailable then m.latest else m.min)
      else if st = "max" then (if m.max = unavailable then m.latest else m.max)
      else if st = "latest" then m.latest else "" := by
  unfold metricValue
  rw [h]
  split
  · rename_i e
    cases e
    rfl
  · rename_i e
    cases e
    rfl
  · rename_i e
    cases e
    rfl
  · rename_i h1 h2 h3
    rw [if_neg (fun e : st = "min" => h1 (congrArg some e)), if_neg (fun e : st = "max" => h2 (congrArg some e)), if_neg (fun e : st = "latest" => h3 (congrArg some e))]

/-- C10_trials: the eligible trials arrive in order with name, assignments and labels (their last condition: `C10_last_condition`). -/
theorem C10_trials (ts : List TrialIn) :
    (convertTrials ts).map (fun p => (p.name, p.assignments, p.labels)) =
    ((ts.filter (fun t => !condHas t.conditions "MetricsUnavailable" && !(condHas t.conditions "EarlyStopped" && !obsAvail t))).map
      (fun t => (t.name, t.assignments, t.labels))) := by
  simp [convertTrials, List.map_map, Function.comp_def, convTrial]

theorem C10_last_condition (t : TrialIn) (c : String × Bool) (h : t.conditions.getLast? = some c) :
    (convTrial t).condition = enumConv "convertTrialConditionType" c.1 := by
  simp [convTrial, h]

/-! Non-vacuity -/
example : enumConv "convertParameterType" "double" = "ParameterType_DOUBLE" := by decide
example : overlaySettings [("a", "1"), ("b", "2")] [("b", "9"), ("c", "3"), ("b", "7")] = [("a", "1"), ("b", "7"), ("c", "3")] := by decide

end Katib.Conv
