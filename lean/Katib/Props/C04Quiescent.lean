import Katib.Props.C01World
import Katib.Props.C04
import Katib.Props.C06Running
import Katib.Props.C06World
/-!
# C04: quiescence implies a verdict (partial)

`C04_quiescent_verdict_partial`: take any store `w` (not only a reachable one) and an Experiment with `maxTrialCount = m`.
If none of the three controllers would issue a single write when reconciling it on the live store (the Experiment, its
Suggestion, each of its Trials — the algorithm service answering), every existing run object has finished, the metrics
that were collected are in the database and parse, the algorithm Deployment (if it exists) is ready, and no Trial is
early-stopped without an objective value (the region of the known finding, `C04_wedge_counterexample`), then the
Experiment carries a Succeeded or Failed verdict.

It is *partial* with respect to the property in three ways, all visible as hypotheses: (1) reconciles read the live store
(a cache that lags for ever is not "quiescent" in the property's sense either, but the theorem does not treat finite lag);
(2) facts about reachable stores are assumed rather than derived here — Trial keys are unique (`KInv`), no Trial is under
deletion, `suggestionCount = |assignments|` (`C01_total`), assignment names are unique (`C08_names_unique_world`), a Suggestion of
an unfinished Experiment is not Succeeded, a MetricsUnavailable Trial is not Running (`C06_unavailable_not_running`), an Experiment
without Trials has zero stored counters, and the Experiment itself is not under deletion; `C04_quiescent_verdict_on_schedules`
below and Props/C04Counters, C04Resume derive them, one after the other, for the stores the simulator reaches; (3) the "no hot loop"
half of the property is covered by the `C04_no_noop_*` theorems, not here.
-/
namespace Katib.Ctl
open Katib Katib.Exp

/-- no call anywhere in the decision tree is a write (`dbGet` is the only read) -/
def Prog.noWrites (p : Prog) : Prop := ∀ c ∈ p.calls, isWrite c = false

instance (p : Prog) : Decidable p.noWrites := by unfold Prog.noWrites; infer_instance

theorem Prog.noWrites_iff (p : Prog) : p.noWrites ↔ p.All (fun c => isWrite c = false) :=
  (Prog.all_iff _ p).symm

theorem nw_step {c : Call} {a b : Prog} : (Prog.step c a b).noWrites ↔ isWrite c = false ∧ a.noWrites ∧ b.noWrites := by
  simp only [Prog.noWrites_iff]
  exact Iff.rfl

theorem nw_write {c : Call} {a b : Prog} (h : (Prog.step c a b).noWrites) (hc : isWrite c = true) : False :=
  Bool.noConfusion ((nw_step.1 h).1.symm.trans hc)

theorem nw_trialFinish {t : TrialO} {st : TrialSt} (h : (trialFinish t st).noWrites) : st = t.st :=
  Decidable.by_contra fun hne => Bool.noConfusion (all_trialFinish.1 ((Prog.noWrites_iff _).1 h) hne)

/-- a quiescent reconcile of a Trial that is not under deletion has got as far as `reconcileTrial`: the Trial holds its
    finalizer and is Created -/
theorem nw_trialPlan {w : World} {k : Key2} {now : Nat} {t : TrialO} (ht : findTrial w k = some t) (hd : t.deleted = false)
    (q : (trialPlan w k now).noWrites) : t.fin = true ∧ tHas t .created = true ∧ (trialReconcileJob w k t now).noWrites := by
  rw [trialPlan_eq now ht, hd] at q
  cases hf : t.fin with
  | false =>
    rw [hf] at q
    exact (nw_write q rfl).elim
  | true =>
    cases hcr : tHas t .created with
    | false =>
      rw [hf, hcr] at q
      exact (Cond.ne_of_has (Cond.has_set_self) hcr (congrArg TrialSt.conds (nw_trialFinish q))).elim
    | true =>
      rw [hf, hcr] at q
      exact ⟨rfl, rfl, q⟩

/-- `UpdateTrialStatusCondition` for a finished run object has something to write as long as the Trial is not completed -/
theorem nw_trialUpdateCondition {t : TrialO} {st : TrialSt} {js : JobCond} {now : Nat} (hc : tCompleted t = false)
    (hst : st.conds = t.st.conds) (hjs : js ≠ .running) (q : (trialUpdateCondition t st js now).noWrites) : False := by
  obtain ⟨h1, h2, -, h4, h5⟩ := not_completed_has hc
  unfold tHas at h1 h2 h4 h5
  unfold trialUpdateCondition at q
  cases js with
  | running => exact hjs rfl
  | failed =>
    simp only [hst, h2, h4] at q
    exact Cond.ne_of_has (has_tMark_self) h2 (congrArg TrialSt.conds (nw_trialFinish q))
  | succeeded =>
    simp only [hst, h1, h4, h5, Bool.not_false, Bool.and_true, if_true] at q
    split at q
    · exact Cond.ne_of_has (has_tMark_self) h1 (congrArg TrialSt.conds (nw_trialFinish q))
    · split at q
      · exact nw_write q rfl
      · exact Cond.ne_of_has (has_tMark_self) h5 (congrArg TrialSt.conds (nw_trialFinish q))

/-- a quiescent Trial whose job has finished and whose metrics have arrived carries a terminal condition -/
theorem trial_quiescent (w : World) (t : TrialO) (now : Nat) (ht : findTrial w t.key = some t) (hd : t.deleted = false)
    (q : (trialPlan w t.key now).noWrites)
    (envJ : ∀ j, findJob w t.key = some j → j.state ≠ .running)
    (envM : ∀ j, findJob w t.key = some j → j.state = .succeeded →
      (t.push = false → (dbOf w t.key.name).isEmpty = false) ∧
      ((dbOf w t.key.name).isEmpty = false → (Metrics.getMetrics (dbOf w t.key.name) [objMetric]).isSome = true)) :
    tCompleted t = true := by
  cases hc : tCompleted t with
  | true => rfl
  | false =>
    exfalso
    have q := (nw_trialPlan ht hd q).2.2
    unfold trialReconcileJob at q
    cases hj : findJob w t.key with
    | none =>
      rw [hj, hc] at q
      exact nw_write q rfl
    | some j =>
      rw [hj, hc] at q
      have q : (trialAfterJob w t j.state now).noWrites := q
      unfold trialAfterJob at q
      rw [hc] at q
      rcases jsOf_finished (tHas t .running) (envJ j hj) with hjs | ⟨hst, hjs⟩
      · rw [hjs] at q
        have q : (trialObserve w t .failed now).noWrites := q
        unfold trialObserve at q
        rw [(not_completed_has hc).2.2.2.1] at q
        have q : (trialUpdateCondition t t.st .failed now).noWrites := q
        exact nw_trialUpdateCondition hc rfl (by decide) q
      · obtain ⟨m1, m2⟩ := envM j hj hst
        rw [hjs] at q
        have q : (trialObserve w t .succeeded now).noWrites := q
        unfold trialObserve at q
        simp only [decide_true, Bool.true_or, Bool.true_and, if_true] at q
        cases hem : (dbOf w t.key.name).isEmpty with
        | true =>
          cases hp : t.push with
          | false => exact Bool.noConfusion ((m1 hp).symm.trans hem)
          | true =>
            simp only [hem, hp, if_true, Bool.not_true, Bool.and_false, Bool.false_eq_true, if_false] at q
            exact nw_trialUpdateCondition hc rfl (by decide) (nw_step.1 q).2.1
        | false =>
          cases hg : Metrics.getMetrics (dbOf w t.key.name) [objMetric] with
          | none =>
            have hsome := m2 hem
            rw [hg] at hsome
            cases hsome
          | some ms =>
            simp only [hem, hg, Option.isNone_some, Bool.false_and, Bool.false_eq_true, if_false] at q
            exact nw_trialUpdateCondition hc (by rfl) (by decide) (nw_step.1 q).2.1

theorem nw_createIfAbsent {p : Bool} {c : Call} {next fail : Prog} (h : (createIfAbsent p c next fail).noWrites) : next.noWrites :=
  (Prog.noWrites_iff _).2 (all_createIfAbsent.1 ((Prog.noWrites_iff _).1 h)).2

theorem nw_sugFinish {s : SugO} {st : SugSt} (h : (sugFinish s st).noWrites) : st = s.st :=
  Decidable.by_contra fun hne => Bool.noConfusion (all_sugFinish.1 ((Prog.noWrites_iff _).1 h) hne)

/-- `ReconcileSuggestion` once the Deployment is ready.  Validation and `GetSuggestions` are calls to the algorithm service, which
    count as writes: a quiescent Suggestion has been assigned all that is requested. -/
theorem nw_sugTail {v : World} {s : SugO} {st : SugSt} {env : SugEnv} {now : Nat} (he : (findExp v s.key).isSome = true)
    (q : (sugTail v s st env now).noWrites) : s.requests ≤ st.count := by
  unfold sugTail at q
  cases hex : findExp v s.key with
  | none =>
    rw [hex] at he
    cases he
  | some e =>
    simp only [hex] at q
    split at q
    · exact (nw_write q rfl).elim
    · unfold sugSync at q
      refine Int.not_lt.1 fun hcur => ?_
      rw [if_neg (by omega)] at q
      by_cases hm : env.algoMode = 3
      · rw [if_pos hm] at q
        exact nw_write q rfl
      · rw [if_neg hm] at q
        exact nw_write q rfl

theorem nw_sugReconcile {v : World} {s : SugO} {env : SugEnv} {now : Nat} (q : (sugReconcile v s env now).noWrites) :
    (sugDeploy v s env now).noWrites := by
  have q1 : (sugRbac v s env now).noWrites := by
    unfold sugReconcile at q
    split at q
    · exact nw_createIfAbsent (nw_createIfAbsent q)
    · exact nw_createIfAbsent q
  unfold sugRbac at q1
  split at q1
  · exact nw_createIfAbsent (nw_createIfAbsent (nw_createIfAbsent q1))
  · exact q1

/-- a quiescent Suggestion whose Deployment is ready (and whose algorithm service answers) has nothing left to ask for -/
theorem sug_quiescent (w : World) (k : Key2) (now : Nat) (s : SugO) (hs : findSug w k = some s)
    (hnS : sHas s .succeeded = false) (he : (findExp w k).isSome = true)
    (q : (sugPlan w k {} now).noWrites)
    (envD : ∀ d, findDeploy w (infraKey k) = some d → d.ready = true) :
    s.requests ≤ s.st.count := by
  obtain rfl := findSug_key hs
  rw [sugPlan_eq {} now hs, hnS] at q
  cases hcr : sHas s .created with
  | false =>
    rw [hcr] at q
    exact (Cond.ne_of_has (Cond.has_set_self) hcr (congrArg SugSt.conds (nw_sugFinish q))).elim
  | true =>
    rw [hcr] at q
    have q := nw_sugReconcile q
    unfold sugDeploy at q
    cases hdp : findDeploy w (infraKey s.key) with
    | none =>
      simp only [hdp] at q
      exact (nw_write q rfl).elim
    | some d =>
      simp only [hdp, envD d hdp, Bool.not_true, Bool.false_eq_true, if_false] at q
      exact (nw_sugTail he q :)

theorem nw_expFinish {e : ExpO} {st : ExpSt} (h : (expFinish e st).noWrites) : st = e.st :=
  Decidable.by_contra fun hne => Bool.noConfusion (all_expFinish.1 ((Prog.noWrites_iff _).1 h) hne)

theorem nw_creates {e : ExpO} {l : List String} {k : Prog}
    (q : (l.foldr (fun a k => Prog.step (.trialCreate (mkTrial e a)) k k) k).noWrites) : l = [] :=
  List.eq_nil_iff_forall_not_mem.2 fun a ha => Bool.noConfusion ((all_creates.1 ((Prog.noWrites_iff _).1 q)).1 a ha)

/-- pigeonhole: a duplicate-free list contained in another is not longer -/
theorem nodup_subset_length : ∀ (l l' : List String), l.Nodup → (∀ x ∈ l, x ∈ l') → l.length ≤ l'.length :=
  fun _ _ hnd hsub => hnd.length_le_of_subset hsub

theorem active_zero (e : ExpO) (st : ExpSt) (ts : List TrialO) (now : Nat)
    (hall : ∀ t ∈ ts, tCompleted t = true ∧ (tHas t .metricsUnavailable = true → tHas t .running = false)) :
    activeCount (expUpdateStatus e st ts now) = 0 := by
  rw [(counts_update e st ts now).2, List.filter_eq_nil_iff.2 fun t ht => by
    rw [done_of_tCompleted (hall t ht).1 (hall t ht).2]
    exact Bool.false_ne_true]
  rfl

theorem not_completed_lt (e : ExpO) (st : ExpSt) (ts : List TrialO) (now : Nat) (m : Int) (hm : e.maxT = some m)
    (hnc : isCompleted st.conds = false) (hnc1 : isCompleted (expUpdateStatus e st ts now).conds = false) :
    completedCount (expUpdateStatus e st ts now) < m := by
  rw [conds_of_update e st ts now hnc] at hnc1
  have hmax : ¬ maxRule _ _ = true := fun h => Bool.false_ne_true (hnc1.symm.trans (isCompleted_of_maxRule _ _ _ _ h))
  unfold maxRule Counts.completed countsOf at hmax
  simp only [hm, decide_eq_true_eq] at hmax
  unfold completedCount
  rw [counts_of_update]
  simp only [cnt, countsOfLists, List.getD_cons_zero, List.getD_cons_succ]
  omega

theorem reconcile_progress {w : World} {e : ExpO} {st1 : ExpSt} {ts : List TrialO} {now : Nat} {m : Int}
    (hm : e.maxT = some m) (hpar : 1 ≤ e.par) (hnc : isCompleted e.st.conds = false)
    (ha : activeCount st1 = 0) (hcpl : completedCount st1 < m)
    (nw : ∀ t ∈ ts, (!obsAvailable t.st && tHas t .earlyStopped) = false)
    (hsug : ∀ s, findSug w e.key = some s → s.requests ≤ s.st.count ∧ s.st.count = (s.st.names.length : Int) ∧ s.st.names.Nodup)
    (q : (expReconcileTrials w e st1 ts now).noWrites) : False := by
  have hadd : 0 < addCount e st1 := by
    unfold addCount
    simp only [hm, ha]
    omega
  have hies : ts.filter (fun t => !obsAvailable t.st && tHas t .earlyStopped) = [] :=
    List.filter_eq_nil_iff.2 fun t ht => by rw [nw t ht]; exact Bool.false_ne_true
  unfold expReconcileTrials at q
  rw [ha, if_neg (by omega), if_pos (by omega), if_pos hadd] at q
  unfold expCreateTrials at q
  -- (`split at q` is slow on a term of this size: the guards are named and rewritten instead)
  cases hs : findSug w e.key with
  | none =>
    rw [hs] at q
    exact nw_write q rfl
  | some s =>
    obtain ⟨h1, h2, h3⟩ := hsug s hs
    cases hf : sHas s .failed with
    | true =>
      simp only [hs, hf, if_true] at q
      exact Cond.ne_of_has (markFailed_spec ..).1 (not_completed hnc).2 (congrArg ExpSt.conds (nw_expFinish q))
    | false =>
      simp only [hs, hf, hies, List.length_nil, Bool.false_eq_true, if_false] at q
      by_cases hreq : s.requests = ts.length + addCount e st1 - (0 : Nat)
      case neg =>
        rw [if_pos hreq] at q
        exact nw_write q rfl
      rw [if_neg (not_not_intro hreq), if_pos (by omega)] at q
      -- every assignment has its Trial, so there are no more assignments than Trials
      have hsub : ∀ x ∈ s.st.names, x ∈ ts.map (·.key.name) := fun x hx => by
        have := List.filter_eq_nil_iff.1 (nw_creates q) x hx
        simp only [Bool.not_eq_true', Bool.not_eq_false, List.any_eq_true, decide_eq_true_eq] at this
        obtain ⟨t, ht, rfl⟩ := this
        exact List.mem_map.2 ⟨t, ht, rfl⟩
      have := nodup_subset_length _ _ h3 hsub
      rw [List.length_map] at this
      omega

/-- a quiescent Experiment controller, all of whose Trials are completed and none of which is early-stopped without
    observation, and whose Suggestion has nothing pending, has reached a verdict -/
theorem exp_quiescent (w : World) (k : Key2) (now : Nat) (e : ExpO) (m : Int)
    (he : findExp w k = some e) (hm : e.maxT = some m) (hm1 : 1 ≤ m) (hpar : 1 ≤ e.par) (hdel : e.deleted = false)
    (q : (expPlan w k now).noWrites)
    (hall : ∀ t ∈ trialsOf w k, tCompleted t = true ∧ (tHas t .metricsUnavailable = true → tHas t .running = false))
    (nw : ∀ t ∈ trialsOf w k, (!obsAvailable t.st && tHas t .earlyStopped) = false)
    (wf0 : trialsOf w k = [] → activeCount e.st = 0 ∧ completedCount e.st = 0)
    (hsug : ∀ s, findSug w k = some s → s.requests ≤ s.st.count ∧ s.st.count = (s.st.names.length : Int) ∧ s.st.names.Nodup) :
    isCompleted e.st.conds = true := by
  cases hc : isCompleted e.st.conds with
  | true => rfl
  | false =>
    exfalso
    obtain rfl := findExp_key he
    rw [expPlan_eq now he, hdel, hc] at q
    cases hf : e.fin with
    | false =>
      rw [hf] at q
      exact nw_write q rfl
    | true =>
      rw [hf] at q
      have q : (expMain w e e.st now).noWrites := q
      rw [expMain_eq] at q
      cases hcr : Cond.has e.st.conds .created with
      | false =>
        rw [hcr] at q
        exact Cond.ne_of_has (Cond.has_set_self) hcr (congrArg ExpSt.conds (nw_expFinish q))
      | true =>
        rw [hcr] at q
        cases hc1 : isCompleted (expRefresh w e e.st now).conds with
        | true =>
          rw [hc1] at q
          rw [nw_expFinish q, hc] at hc1
          cases hc1
        | false =>
          rw [hc1] at q
          have q : (expReconcileTrials w e (expRefresh w e e.st now) (trialsOf w e.key) now).noWrites := q
          rcases expRefresh_cases w e e.st now with ⟨h0, hr⟩ | ⟨-, hr⟩
          · rw [hr] at q
            obtain ⟨a0, c0⟩ := wf0 h0
            exact reconcile_progress hm hpar hc a0 (by omega) nw hsug q
          · rw [hr] at q hc1
            exact reconcile_progress hm hpar hc (active_zero e e.st _ now hall) (not_completed_lt e e.st _ now m hm hc hc1) nw hsug q

/-- **C04_quiescent_verdict_partial** (see the header for what is assumed) -/
theorem C04_quiescent_verdict_partial (w : World) (k : Key2) (now : Nat) (e : ExpO) (m : Int)
    (he : findExp w k = some e) (hm : e.maxT = some m) (hm1 : 1 ≤ m) (hpar : 1 ≤ e.par) (hdel : e.deleted = false)
    -- quiescence: no controller has a write to issue
    (qE : (expPlan w k now).noWrites) (qS : (sugPlan w k {} now).noWrites)
    (qT : ∀ t ∈ trialsOf w k, (trialPlan w t.key now).noWrites)
    -- the environment has settled
    (envJ : ∀ t ∈ trialsOf w k, ∀ j, findJob w t.key = some j → j.state ≠ .running)
    (envM : ∀ t ∈ trialsOf w k, ∀ j, findJob w t.key = some j → j.state = .succeeded →
      (t.push = false → (dbOf w t.key.name).isEmpty = false) ∧
      ((dbOf w t.key.name).isEmpty = false → (Metrics.getMetrics (dbOf w t.key.name) [objMetric]).isSome = true))
    (envD : ∀ d, findDeploy w (infraKey k) = some d → d.ready = true)
    -- outside the known finding
    (nw : ∀ t ∈ trialsOf w k, (!obsAvailable t.st && tHas t .earlyStopped) = false)
    -- facts about reachable stores (assumed here)
    (hK : KInv w)
    (wfT : ∀ t ∈ trialsOf w k, t.deleted = false ∧ (tHas t .metricsUnavailable = true → tHas t .running = false))
    (wfS : ∀ s, findSug w k = some s → sHas s .succeeded = false ∧ s.st.count = (s.st.names.length : Int) ∧ s.st.names.Nodup)
    (wf0 : trialsOf w k = [] → activeCount e.st = 0 ∧ completedCount e.st = 0) :
    isCompleted e.st.conds = true := by
  refine exp_quiescent w k now e m he hm hm1 hpar hdel qE ?_ nw wf0 ?_
  · intro t ht
    have hmem := (mem_trialsOf.1 ht).1
    exact ⟨trial_quiescent w t now (findTrial_of_mem hK hmem) (wfT t ht).1 (qT t ht) (envJ t ht) (envM t ht), (wfT t ht).2⟩
  · intro s hs
    obtain ⟨a, b, c⟩ := wfS s hs
    exact ⟨sug_quiescent w k now s hs a (by rw [he]; rfl) qS envD, b, c⟩

/-! Non-vacuity: a finished one-trial experiment meets every hypothesis of `C04_quiescent_verdict_partial`
    (and `wedgeWorld` of `C04_wedge_counterexample` meets all of them except `nw`). -/
def doneTrial : TrialO :=
  { key := ⟨"ns", "exp-t1"⟩, exp := "exp", fin := true, retain := true, push := false, objType := .maximize,
    st := { conds := [⟨.created, true, rTrialCreated, 1⟩, ⟨.running, false, rTrialRunning, 3⟩, ⟨.succeeded, true, rTrialSucceeded, 3⟩],
            completion := some 3, started := true,
            obs := (Metrics.getMetrics [{ metric := "acc", text := "0.7", key := some 7, ts := some 2 }] ["acc"]).map
                     (fun ms => ms.map (fun m => { m with lastTs := none })) } }
def doneSug : SugO :=
  { key := ⟨"ns", "exp"⟩, requests := 1, resume := .longRunning, es := false,
    st := { conds := [⟨.created, true, rSugCreated, 1⟩, ⟨.deploymentReady, true, rSugDeployReady, 2⟩, ⟨.running, true, rSugRunning, 2⟩],
            names := ["exp-t1"], count := 1, started := true } }
def doneJob : JobO := { key := ⟨"ns", "exp-t1"⟩, state := .succeeded }
def doneDeploy : DeployO := { key := ⟨"ns", "exp-random"⟩, ready := true }
def doneWorld : World :=
  { exps := [{ key := ⟨"ns", "exp"⟩, fin := true, par := 1, maxT := some 1, maxF := none,
               cfg := { goal := none, objType := .maximize, resume := .longRunning, es := false, retain := true, push := false, labels := false },
               st := { conds := [⟨.created, true, rCreated, 1⟩, ⟨.running, false, rRunning, 4⟩, ⟨.succeeded, true, rMaxTrials, 4⟩], started := true,
                       completion := some 4, lists := { succeeded := ["exp-t1"] }, trials := 1, counts := [0, 0, 1, 0, 0, 0, 0] } }],
    trials := [doneTrial], sugs := [doneSug], jobs := [doneJob], deploys := [doneDeploy],
    svcs := [⟨"ns", "exp-random"⟩],
    db := [("exp-t1", [{ metric := "acc", text := "0.7", key := some 7, ts := some 2 }])], algoN := 1 }

example :
    let w := doneWorld
    let k : Key2 := ⟨"ns", "exp"⟩
    (∃ e, findExp w k = some e ∧ e.maxT = some 1 ∧ 1 ≤ e.par ∧ e.deleted = false ∧
      (trialsOf w k = [] → activeCount e.st = 0 ∧ completedCount e.st = 0)) ∧
    (expPlan w k 9).noWrites ∧ (sugPlan w k {} 9).noWrites ∧
    (∀ t ∈ trialsOf w k, (trialPlan w t.key 9).noWrites) ∧
    (∀ t ∈ trialsOf w k, ∀ j, findJob w t.key = some j → j.state ≠ .running) ∧
    (∀ t ∈ trialsOf w k, (dbOf w t.key.name).isEmpty = false ∧ (Metrics.getMetrics (dbOf w t.key.name) [objMetric]).isSome = true) ∧
    (∀ d, findDeploy w (infraKey k) = some d → d.ready = true) ∧
    (∀ t ∈ trialsOf w k, (!obsAvailable t.st && tHas t .earlyStopped) = false) ∧
    KInv w ∧
    (∀ t ∈ trialsOf w k, t.deleted = false ∧ (tHas t .metricsUnavailable = true → tHas t .running = false)) ∧
    (∀ s, findSug w k = some s → sHas s .succeeded = false ∧ s.st.count = (s.st.names.length : Int) ∧ s.st.names.Nodup) := by
  have hts : trialsOf doneWorld ⟨"ns", "exp"⟩ = [doneTrial] := rfl
  have hj : findJob doneWorld doneTrial.key = some doneJob := rfl
  have hd : findDeploy doneWorld (infraKey ⟨"ns", "exp"⟩) = some doneDeploy := rfl
  have hs : findSug doneWorld ⟨"ns", "exp"⟩ = some doneSug := rfl
  simp only [hts, List.mem_singleton, forall_eq, hj, hd, hs, Option.some.injEq]
  refine ⟨⟨_, rfl, rfl, by decide, rfl, by decide⟩, by decide, by decide, by decide, ?_, by decide, ?_,
    by decide, by unfold KInv; decide, by decide, ?_⟩
  · intro j hj; subst hj; decide
  · intro d hd; subst hd; rfl
  · intro s hs; subst hs; decide

/-- **C04_quiescent_verdict_on_schedules**: the same statement about the stores that the simulator reaches.  For every
    list of operations (reconciles of the three controllers in any order, every typed kind read from an arbitrary earlier
    snapshot, any fault mask and abort point, any environment events) in which the experiment's `maxTrialCount` is not edited
    and nobody deletes Trials, the store `w` reached at the end satisfies, *by the invariants proved for every schedule*
    (`C01_total`'s `WInv`, `C06_permanent`'s `TInv`, `C06_unavailable_not_running`), five of the assumed facts: Trial keys
    are unique, `suggestionCount` equals the number of assignments, no Trial is under deletion, a MetricsUnavailable Trial is
    not Running, and the Experiment's `maxTrialCount` is the initial one.  What remains assumed is listed: unique assignment
    names, the Suggestion of an unfinished Experiment is not Succeeded, zero counters without Trials (Props/C04Counters
    and C04Resume go on from here), and that the Experiment is not under deletion. -/
theorem C04_quiescent_verdict_on_schedules (k : Key2) (m : Int) (hm1 : 1 ≤ m) (es : List ExpInit) (ops : List Op)
    (hinit : ∀ e ∈ es, e.key = k → e.maxT = some m)
    (hops : ∀ op ∈ ops, ∀ n, op ≠ .editMax k n) (hopd : ∀ op ∈ ops, ∀ k', op ≠ .userDelete k')
    (now : Nat) (e : ExpO) :
    let w := (run (Sim.init es) ops).cur
    findExp w k = some e → 1 ≤ e.par → e.deleted = false →
    (expPlan w k now).noWrites → (sugPlan w k {} now).noWrites → (∀ t ∈ trialsOf w k, (trialPlan w t.key now).noWrites) →
    (∀ t ∈ trialsOf w k, ∀ j, findJob w t.key = some j → j.state ≠ .running) →
    (∀ t ∈ trialsOf w k, ∀ j, findJob w t.key = some j → j.state = .succeeded →
      (t.push = false → (dbOf w t.key.name).isEmpty = false) ∧
      ((dbOf w t.key.name).isEmpty = false → (Metrics.getMetrics (dbOf w t.key.name) [objMetric]).isSome = true)) →
    (∀ d, findDeploy w (infraKey k) = some d → d.ready = true) →
    (∀ t ∈ trialsOf w k, (!obsAvailable t.st && tHas t .earlyStopped) = false) →
    (∀ s, findSug w k = some s → sHas s .succeeded = false ∧ s.st.names.Nodup) →
    (trialsOf w k = [] → activeCount e.st = 0 ∧ completedCount e.st = 0) →
    isCompleted e.st.conds = true := by
  intro w he hpar hdel qE qS qT envJ envM envD nw wfS wf0
  have wfMU := C06_unavailable_not_running es ops
  have hm0 : 0 ≤ m := by omega
  have hT := verdict_run es hopd
  obtain ⟨hW, hX⟩ := (budget_run hm0 es hinit hops).cur
  have hmax : e.maxT = some m := hX e (findExp_mem he) (findExp_key he)
  refine C04_quiescent_verdict_partial w k now e m he hmax hm1 hpar hdel qE qS qT envJ envM envD nw hW.tkeys ?_ ?_ wf0
  · intro t ht
    exact ⟨(hT.cur.1 t (mem_trialsOf.1 ht).1).1, wfMU t (mem_trialsOf.1 ht).1⟩
  · intro s hs
    obtain ⟨a, b⟩ := wfS s hs
    exact ⟨a, (hW.sug s hs).2.2, b⟩

end Katib.Ctl
