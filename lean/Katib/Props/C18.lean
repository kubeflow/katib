import Katib.Lemmas.Goptuna
/-!
# C18 — the Go suggestion service proposes only feasible points and survives its own history

* `C18_survives_history`: for every history in which Katib's trials are created from assignments the service handed out
  (each assignment at most once), in any state, any order, any subset per request, `GetSuggestions` never fails in
  `syncTrials` / `findGoptunaTrialIDByParam` — by an invariant with a ghost origin map, for unboundedly many rounds.
* `C18_count`: a successful request adds exactly as many trials as the sampler returned assignments.
* `C18_snap_feasible` / `C18_snap_counterexample`: the grid snap of stepped parameters stays in `[low, high]` and on the grid
  when the step divides the range, and leaves the range otherwise (known finding), in exact arithmetic.
The samplers themselves (third-party, floating point, random) are not modelled: feasibility of what they return is judged per
reply by the oracle `Katib.Drv.oracleLineC18`.
-/
namespace Katib.Gop

/-- the transposition of the ids `a` and `b` -/
def swapId (a b j : Nat) : Nat := if j = a then b else if j = b then a else j

theorem swapId_left (a b : Nat) : swapId a b a = b := if_pos rfl

theorem swapId_right (a b : Nat) : swapId a b b = a := by
  unfold swapId
  split
  · assumption
  · exact if_pos rfl

theorem swapId_other {a b j : Nat} (h1 : j ≠ a) (h2 : j ≠ b) : swapId a b j = j := (if_neg h1).trans (if_neg h2)

theorem swapId_congr {α : Type} (f : Nat → α) {a b : Nat} (h : f a = f b) (x : Nat) : f (swapId a b x) = f x := by
  by_cases ha : x = a
  · rw [ha, swapId_left, h]
  · by_cases hb : x = b
    · rw [hb, swapId_right, h]
    · rw [swapId_other ha hb]

theorem swapId_swapId (a b x : Nat) : swapId a b (swapId a b x) = x := by
  by_cases ha : x = a
  · rw [ha, swapId_left, swapId_right]
  · by_cases hb : x = b
    · rw [hb, swapId_right, swapId_left]
    · rw [swapId_other ha hb, swapId_other ha hb]

theorem swapId_inj (a b : Nat) {x y : Nat} (h : swapId a b x = swapId a b y) : x = y := by
  rw [← swapId_swapId a b x, h, swapId_swapId]

/-- a renaming of Goptuna ids that is injective, keeps the external parameters and moves only ids of existing trials
    (what the ghost origin is known up to) -/
structure Perm (ts : List GTrial) (π : Nat → Nat) : Prop where
  inj : ∀ a b, π a = π b → a = b
  pres : ∀ a, P ts (π a) = P ts a
  fix : ∀ a, P ts a = none → π a = a

theorem Perm.swap {ts : List GTrial} {π : Nat → Nat} {a b : Nat} {v : Params} (h : Perm ts π) (ha : P ts a = some v)
    (hb : P ts b = some v) : Perm ts (swapId a b ∘ π) := by
  refine ⟨fun x y e => h.inj x y (swapId_inj a b e),
    fun x => (swapId_congr (P ts) (ha.trans hb.symm) _).trans (h.pres x), fun x hx => ?_⟩
  show swapId a b (π x) = x
  rw [h.fix x hx]
  exact swapId_other (fun e => by rw [e, ha] at hx; cases hx) (fun e => by rw [e, hb] at hx; cases hx)

/-- the trial list may grow and states may change: ids that have parameters keep them -/
theorem Perm.mono {ts ts' : List GTrial} {π : Nat → Nat} (h : Perm ts π) (hP : ∀ a v, P ts a = some v → P ts' a = some v) :
    Perm ts' π := by
  refine ⟨h.inj, fun a => ?_, fun a ha => h.fix a ?_⟩
  · cases hp : P ts a with
    | none => rw [h.fix a hp]
    | some v => rw [hP a v hp, hP (π a) v ((h.pres a).trans hp)]
  · cases hp : P ts a with
    | none => rfl
    | some v => rw [hP a v hp] at ha; cases ha

/-- the bookkeeping invariant.  `oe` is the environment's knowledge of which Goptuna trial each Katib trial was created from,
    `ks` the Katib trials that exist; the service's mapping agrees with `oe` up to a renaming `π` of ids, because the scan
    of `findGoptunaTrialIDByParam` may pick another trial with equal parameters than the one the Katib trial came from. -/
structure Inv (s : Svc) (oe : String → Option Nat) (ks : List (String × Params)) (π : Nat → Nat) : Prop where
  ids : s.trials.map (·.id) = List.range s.trials.length
  run : ∀ t ∈ s.trials, mapped s.mapping t.id = false → t.state = .running
  perm : Perm s.trials π
  sub : ∀ n id, (n, id) ∈ s.mapping → ∃ a, oe n = some a ∧ π a = id
  inj : ∀ n n' id, oe n = some id → oe n' = some id → n = n'
  valid : ∀ n ps, (n, ps) ∈ ks → ∃ a, oe n = some a ∧ P s.trials a = some ps

section
variable {s : Svc} {oe : String → Option Nat} {ks : List (String × Params)} {π : Nat → Nat}

theorem Inv.unmapped (h : Inv s oe ks π) {n : String} {a : Nat} (ho : oe n = some a) (hn : n ∉ s.mapping.map (·.1)) :
    mapped s.mapping (π a) = false := by
  cases hm : mapped s.mapping (π a) with
  | false => rfl
  | true =>
    obtain ⟨n', hmem⟩ := mapped_iff_mem.1 hm
    obtain ⟨x, hx, hπ⟩ := h.sub n' _ hmem
    cases h.perm.inj x a hπ
    cases h.inj n n' _ ho hx
    exact absurd (List.mem_map_of_mem (f := (·.1)) hmem) hn

/-- Katib creates a trial from an assignment nobody was created from yet -/
theorem Inv.create (h : Inv s oe ks π) {name : String} {id : Nat} {ps : Params} (hfresh : oe name = none)
    (hun : ∀ n, oe n ≠ some id) (hp : P s.trials id = some ps) :
    Inv s (fun n => if n = name then some id else oe n) ((name, ps) :: ks) π := by
  have hne : ∀ {n j}, oe n = some j → n ≠ name := fun hj e => by rw [e, hfresh] at hj; cases hj
  refine ⟨h.ids, h.run, h.perm, fun n j hm => ?_, fun n n' j h1 h2 => ?_, fun n ps' hmem => ?_⟩
  · obtain ⟨x, hx, hπ⟩ := h.sub n j hm
    exact ⟨x, (if_neg (hne hx)).trans hx, hπ⟩
  · split at h1 <;> split at h2
    · next e e' => exact e.trans e'.symm
    · cases h1; exact absurd h2 (hun n')
    · cases h2; exact absurd h1 (hun n)
    · exact h.inj n n' j h1 h2
  · rcases List.mem_cons.1 hmem with e | hmem
    · cases e
      exact ⟨id, if_pos rfl, hp⟩
    · obtain ⟨j, hj, hpj⟩ := h.valid n ps' hmem
      exact ⟨j, (if_neg (hne hj)).trans hj, hpj⟩

theorem Inv.trials (h : Inv s oe ks π) {ts' : List GTrial} (hids : ts'.map (·.id) = List.range ts'.length)
    (hrun : ∀ t ∈ ts', mapped s.mapping t.id = false → t.state = .running)
    (hP : ∀ a v, P s.trials a = some v → P ts' a = some v) : Inv { s with trials := ts' } oe ks π :=
  ⟨hids, hrun, h.perm.mono hP, h.sub, h.inj, fun n ps hmem => (h.valid n ps hmem).imp fun a ha => ⟨ha.1, hP a ps ha.2⟩⟩

theorem Inv.setState (h : Inv s oe ks π) {id : Nat} (hm : mapped s.mapping id = true) {st : GState} :
    Inv { s with trials := setState s.trials id st } oe ks π := by
  refine h.trials ?_ (fun t ht hun => ?_) (fun a v hp => (P_setState _ _ _ a).trans hp)
  · rw [setState_ids, setState_length, h.ids]
  · rcases mem_setState ht with h0 | e
    · exact h.run t h0 hun
    · rw [e, hm] at hun; cases hun

/-- the scan has found `b` for a Katib trial that stands for `π a`: both are unmapped and have the same parameters, and
    the renaming that also swaps the two makes the origin agree with the new mapping entry -/
theorem Inv.bind (h : Inv s oe ks π) {n : String} {a b : Nat} {v : Params} (ho : oe n = some a)
    (ha : mapped s.mapping (π a) = false) (hb : mapped s.mapping b = false) (hPa : P s.trials (π a) = some v)
    (hPb : P s.trials b = some v) : Inv { s with mapping := (n, b) :: s.mapping } oe ks (swapId (π a) b ∘ π) := by
  refine ⟨h.ids, fun t ht hun => h.run t ht (Bool.or_eq_false_iff.1 hun).2, h.perm.swap hPa hPb, fun n' j hm => ?_,
    h.inj, h.valid⟩
  rcases List.mem_cons.1 hm with e | hm
  · cases e
    exact ⟨a, ho, swapId_left _ _⟩
  · have hj : mapped s.mapping j = true := mapped_iff_mem.2 ⟨n', hm⟩
    obtain ⟨x, hx, rfl⟩ := h.sub n' j hm
    exact ⟨x, hx, swapId_other (fun e => by rw [e, ha] at hj; cases hj) (fun e => by rw [e, hb] at hj; cases hj)⟩

/-- one iteration of `syncTrials` on a Katib trial that exists and that the mapping knows: the mapping agrees with the renamed
    origin, and that trial is in the storage -/
theorem Inv.syncOne_mapped (h : Inv s oe ks π) {k : KTrial} (hk : (k.name, k.params) ∈ ks) {id : Nat}
    (hm : mapOf s.mapping k.name = some id) : ∃ s', syncOne s k = .ok s' ∧ Inv s' oe ks π := by
  obtain ⟨a, ho, hp⟩ := h.valid _ _ hk
  have hmem := mapOf_some_mem hm
  obtain ⟨x, hx, rfl⟩ := h.sub _ _ hmem
  cases ho.symm.trans hx
  obtain ⟨g, hg, -⟩ := P_eq_some.1 ((h.perm.pres a).trans hp)
  rcases syncOne_of_mapped hm hg with e | e
  · exact ⟨_, e, h⟩
  · exact ⟨_, e, h.setState (mapped_iff_mem.2 ⟨_, hmem⟩)⟩

/-- one iteration of `syncTrials` on a Katib trial that exists -/
theorem Inv.syncOne (h : Inv s oe ks π) {k : KTrial} (hk : (k.name, k.params) ∈ ks) :
    ∃ s' π', syncOne s k = .ok s' ∧ Inv s' oe ks π' := by
  cases hm : mapOf s.mapping k.name with
  | some id =>
    obtain ⟨s', e, h'⟩ := h.syncOne_mapped hk hm
    exact ⟨s', π, e, h'⟩
  | none =>
    -- the renamed origin `g` is unmapped, hence running, so the scan finds some trial `f` with these parameters; with `f`
    -- recorded the iteration is that of a trial the mapping knows
    obtain ⟨a, ho, hp⟩ := h.valid _ _ hk
    replace hp : P s.trials (π a) = some k.params := (h.perm.pres a).trans hp
    obtain ⟨g, hg, hgp⟩ := P_eq_some.1 hp
    have hun := h.unmapped ho (mapOf_none_not_key hm)
    obtain ⟨hgid, hgmem⟩ := getTrial_some hg
    have hung : mapped s.mapping g.id = false := hgid ▸ hun
    obtain ⟨f, hfmem, hfind, -, hfun, hfp⟩ :=
      findIn_spec (m := s.mapping) (List.mem_reverse.2 hgmem) ⟨h.run g hgmem hung, hung, hgp⟩
    have hgf := getTrial_of_mem (h.ids ▸ List.nodup_range) (List.mem_reverse.1 hfmem)
    have h1 := h.bind ho hun hfun hp (P_eq_some.2 ⟨f, hgf, hfp⟩)
    obtain ⟨s', e, h'⟩ := h1.syncOne_mapped hk (if_pos rfl)
    exact ⟨s', _, (syncOne_bind hm hfind).trans e, h'⟩

/-- `syncTrials` over any selection of the existing Katib trials succeeds and keeps the invariant -/
theorem Inv.syncAll (req : List KTrial) (h : Inv s oe ks π) (hreq : ∀ k ∈ req, (k.name, k.params) ∈ ks) :
    ∃ s' π', syncAll s req = .ok s' ∧ Inv s' oe ks π' := by
  induction req generalizing s π with
  | nil => exact ⟨s, π, rfl, h⟩
  | cons k r ih =>
    obtain ⟨s1, π1, e1, h1⟩ := h.syncOne (hreq k List.mem_cons_self)
    obtain ⟨s2, π2, e2, h2⟩ := ih h1 fun k' hk' => hreq k' (List.mem_cons_of_mem _ hk')
    exact ⟨s2, π2, by rw [syncAll, e1]; exact e2, h2⟩

theorem Inv.sample (ps : List Params) (h : Inv s oe ks π) : Inv (sample s ps) oe ks π := by
  induction ps generalizing s with
  | nil => exact h
  | cons p r ih =>
    refine ih (h.trials ?_ (fun t ht hun => ?_) (fun a v hp => P_append hp))
    · rw [List.map_append, List.length_append, h.ids]
      exact List.range_succ.symm
    · rcases List.mem_append.1 ht with ht | ht
      · exact h.run t ht hun
      · cases List.mem_singleton.1 ht
        rfl

end

theorem sample_length (ps : List Params) : ∀ s : Svc, (sample s ps).trials.length = s.trials.length + ps.length := by
  induction ps with
  | nil => intro s; rfl
  | cons p r ih => intro s; simp only [sample, ih, List.length_append, List.length_cons, List.length_nil]; omega

theorem sample_mapping (ps : List Params) : ∀ s : Svc, (sample s ps).mapping = s.mapping := by
  induction ps with
  | nil => intro s; rfl
  | cons p r ih => intro s; simp only [sample, ih]

/-- C18_count: a successful request leaves exactly `sampled.length` new trials (one per sampled assignment) behind -/
theorem C18_count (s s' : Svc) (ks : List KTrial) (sampled : List Params) (h : request s ks sampled = .ok s') :
    ∃ s1, syncAll s ks = .ok s1 ∧ s'.trials.length = s1.trials.length + sampled.length := by
  obtain ⟨s1, h1, rfl⟩ := request_eq_ok h
  exact ⟨s1, h1, sample_length sampled s1⟩

/-- what Katib and the service can do, with the environment's knowledge `oe` of which assignment (Goptuna trial id) each
    Katib trial was created from; `ks` is the set of Katib trials that exist (by name and parameters — states are free) -/
inductive Reach : Svc → (String → Option Nat) → List (String × Params) → Prop
  | init : Reach {} (fun _ => none) []
  /-- Katib creates a trial from an assignment nobody was created from yet -/
  | create {s oe ks} (name : String) (id : Nat) (ps : Params) : Reach s oe ks → oe name = none → (∀ n, oe n ≠ some id) →
      P s.trials id = some ps → Reach s (fun n => if n = name then some id else oe n) ((name, ps) :: ks)
  /-- a request carrying any convertible selection of the existing trials, in any order, in any states; the sampler answers anything -/
  | request {s oe ks} (req : List KTrial) (sampled : List Params) (s' : Svc) : Reach s oe ks →
      (∀ k ∈ req, (k.name, k.params) ∈ ks) → request s req sampled = .ok s' → Reach s' oe ks

theorem Reach.inv {s : Svc} {oe : String → Option Nat} {ks : List (String × Params)} (h : Reach s oe ks) : ∃ π, Inv s oe ks π := by
  induction h with
  | init =>
    exact ⟨id, rfl, fun _ h => (nomatch h), ⟨fun _ _ e => e, fun _ => rfl, fun _ _ => rfl⟩, fun _ _ h => (nomatch h),
      fun _ _ _ h => (nomatch h), fun _ _ h => (nomatch h)⟩
  | create name id ps _ hfresh hun hp ih =>
    obtain ⟨π, h⟩ := ih
    exact ⟨π, h.create hfresh hun hp⟩
  | request req sampled s' _ hreq hok ih =>
    obtain ⟨π, h⟩ := ih
    obtain ⟨s1, h1, rfl⟩ := request_eq_ok hok
    obtain ⟨s2, π', h2, h'⟩ := h.syncAll req hreq
    cases h1.symm.trans h2
    exact ⟨π', h'.sample sampled⟩

/-- C18_survives_history: in every state reachable by histories of the service's own suggestions, a request carrying any
    convertible selection of the existing Katib trials — in any states, any order — succeeds, whatever the sampler returns. -/
theorem C18_survives_history {s : Svc} {oe : String → Option Nat} {ks : List (String × Params)} (h : Reach s oe ks)
    (req : List KTrial) (sampled : List Params) (hreq : ∀ k ∈ req, (k.name, k.params) ∈ ks) (hconv : ∀ k ∈ req, k.convertible = true) :
    ∃ s', request s req sampled = .ok s' ∧ Reach s' oe ks := by
  obtain ⟨π, hi⟩ := h.inv
  obtain ⟨s1, _, h1, _⟩ := hi.syncAll req hreq
  have hr := request_of_syncAll sampled hconv h1
  exact ⟨_, hr, Reach.request req sampled _ h hreq hr⟩

/-- the hypothesis is needed: a trial whose parameters the service never handed out is not re-identified -/
example : (match request {} [{ name := "t", state := .running, params := [("lr", "0.1")], convertible := true }] [] with
    | .error .notFound => true | _ => false) = true := by decide

/-- non-vacuity: after a first reply with two equal assignments, both become Katib trials; a request carrying them in the
    other order, one completed, meets the theorem's hypotheses -/
example : ∃ s oe s', Reach s oe [("b", [("opt", "sgd")]), ("a", [("opt", "sgd")])] ∧
    request s [{ name := "b", state := .succeeded, params := [("opt", "sgd")], convertible := true },
               { name := "a", state := .running, params := [("opt", "sgd")], convertible := true }] [[("opt", "adam")]] = .ok s' := by
  have r1 := Reach.request [] [[("opt", "sgd")], [("opt", "sgd")]] _ .init (fun _ h => nomatch h) rfl
  have r2 := Reach.create "a" 0 [("opt", "sgd")] r1 rfl (fun _ h => nomatch h) (by decide)
  have r3 := Reach.create "b" 1 [("opt", "sgd")] r2 (by decide) (fun n h => by split at h <;> cases h) (by decide)
  refine ⟨_, _, (C18_survives_history r3 _ _ ?_ ?_).imp fun s' hs' => ⟨r3, hs'.1⟩⟩
  · decide
  · decide

theorem two_mul_add (m D : Int) : (2 * m + 1) * D = 2 * (m * D) + D := by
  rw [Int.add_mul, Int.mul_assoc, Int.one_mul]

/-- rounding `A / S` to the nearest integer stays in `[0, m]` for `0 ≤ A ≤ m * S` -/
theorem round_div_mem {A S m : Int} (hS : 0 < S) (h0 : 0 ≤ A) (hm : A ≤ m * S) :
    0 ≤ (2 * A + S) / (2 * S) ∧ (2 * A + S) / (2 * S) ≤ m := by
  have hS2 : 0 < 2 * S := by omega
  refine ⟨Int.ediv_nonneg (by omega) (Int.le_of_lt hS2), Int.le_of_lt_add_one (Int.ediv_lt_of_lt_mul hS2 ?_)⟩
  -- `(m + 1) * (2 * S) = 2 * (m * S) + 2 * S`
  rw [Int.add_mul, Int.one_mul, Int.mul_left_comm]
  omega

/-- C18_snap_feasible: in exact arithmetic, for an internal value `a/d` inside `[low, high]` and a positive step that divides
    the range, `round((ir-low)/step)*step + low` lies in `[low, high]` and on the grid. -/
theorem C18_snap_feasible (low high step a d : Int) (hd : 0 < d) (hs : 0 < step) (hlo : low * d ≤ a) (hhi : a ≤ high * d)
    (m : Int) (hm : high - low = m * step) :
    low ≤ snap low step a d ∧ snap low step a d ≤ high ∧ ∃ k, snap low step a d = low + k * step := by
  unfold snap
  -- in units of `step * d` the value `a - low * d` lies in `[0, m]`, as `m * (step * d) = (high - low) * d`, and so does the
  -- rounded quotient `k`
  have hrange : a - low * d ≤ m * (step * d) := by
    rw [← Int.mul_assoc, ← hm, Int.sub_mul]
    exact Int.sub_le_sub_right hhi _
  obtain ⟨hk0, hkm⟩ := round_div_mem (Int.mul_pos hs hd) (Int.sub_nonneg_of_le hlo) hrange
  generalize (2 * (a - low * d) + step * d) / (2 * (step * d)) = k at hk0 hkm
  have hstep := Int.le_of_lt hs
  exact ⟨Int.le_add_of_nonneg_left (Int.mul_nonneg hk0 hstep),
    Int.sub_eq_iff_eq_add.1 hm ▸ Int.add_le_add_right (Int.mul_le_mul_of_nonneg_right hkm hstep) low,
    k, Int.add_comm _ _⟩

/-- C18_snap_counterexample (known finding): with a step that does not divide the range the snap leaves the feasible
    interval — min 0.1, max 0.9, step 0.3 (units of 0.1): the internal value 0.9 is snapped to 1.0 > 0.9 (the float
    computation prints 0.9999999999999999); the same for integers: min 1, max 6, step 2 at 6 gives 7 -/
theorem C18_snap_counterexample : snap 1 3 9 1 = 10 ∧ (9 : Int) < 10 ∧ snap 1 2 6 1 = 7 := by decide

example : snap 1 2 9 2 = 5 ∧ snap 1 2 7 2 = 3 ∧ snap 0 5 12 1 = 10 := by decide

end Katib.Gop
