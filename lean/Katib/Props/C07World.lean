import Katib.Props.C06World
import Katib.Props.C07
/-!
# C07 over whole schedules: a run object disappears only when its Trial is completed

`C07_deleted_only_when_completed`: for every list of simulator operations in which nobody deletes Trials: if the run object
of a Trial existed in some earlier snapshot and does not exist now, then the Trial exists now and carries a terminal
condition; run-object keys are unique at all times.  (That a run object is not *re-created* after completion needs
per-kind monotone caches and stays a plan-level theorem: `C07_run_object_guard`.)
-/
namespace Katib.Ctl
open Katib Katib.Exp

def JInv (w : World) : Prop := (w.jobs.map (·.key)).Nodup

def JPast (h c : World) : Prop :=
  ∀ k, (findJob h k).isSome = true → findJob c k = none → ∃ tc, findTrial c k = some tc ∧ tCompleted tc = true

theorem JPast.trans {a b c : World} (hj1 : JPast a b) (hj2 : JPast b c) (ht2 : TPast b c) : JPast a c := by
  intro k hk hnone
  cases hb : findJob b k with
  | none =>
    obtain ⟨tb, h1, h2⟩ := hj1 k hk hb
    obtain ⟨tc, h3, _, _, h4⟩ := ht2 k tb h1
    exact ⟨tc, h3, tCompleted_mono h4.2 h2⟩
  | some j => exact hj2 k (by rw [hb]; rfl) hnone

theorem JPast.refl (w : World) : JPast w w := fun k hk hn => by rw [hn] at hk; cases hk

theorem jobs_same {w w' : World} (e : w'.jobs = w.jobs) : JPast w w' ∧ (JInv w → JInv w') := by
  refine ⟨?_, fun h => by unfold JInv; rw [e]; exact h⟩
  intro k hk hnone
  rw [← findJob_congr e k, hnone] at hk; cases hk

/-- what the plans guarantee about run-object deletions, in terms of the store `hT` the Trial was read from -/
def JJust (hT : World) : Call → Prop
  | .jobDelete k => ∃ tv, findTrial hT k = some tv ∧ tCompleted tv = true
  | _ => True

theorem jobs_filter {w : World} {k' : Key2} {tc : TrialO} (htc : findTrial w k' = some tc) (hc : tCompleted tc = true) :
    JPast w { w with jobs := w.jobs.filter (fun j => ¬ j.key = k') } ∧
    (JInv w → JInv { w with jobs := w.jobs.filter (fun j => ¬ j.key = k') }) := by
  refine ⟨fun k hk hnone => ?_, fun hI => (List.Sublist.map _ List.filter_sublist).nodup hI⟩
  by_cases hkk : k = k'
  · subst hkk
    exact ⟨tc, htc, hc⟩
  · -- another key: filtering by key k' does not remove it
    have := find?_isSome_filter_ne JobO.key (fun e => hkk e.symm) hk
    rw [show List.find? _ _ = none from hnone] at this
    cases this

theorem apply_pres_job {hT w w' : World} {c : Call} (hP : TPast hT w) (hJ : JJust hT c) (h : applyCall w c = .ok w') :
    JPast w w' ∧ (JInv w → JInv w') := by
  rcases applyCall_jobs_cases h with h' | ⟨k', rfl, hnone, rfl⟩ | ⟨k', rfl, _, rfl⟩
  · exact jobs_same h'
  · refine ⟨fun k hk hn => ?_, fun hI => nodup_append_single JobO.key { key := k' } hI hnone⟩
    exfalso
    have hn := (find?_append_single JobO.key (k := k) { key := k' } hnone).symm.trans hn
    split at hn
    · cases hn
    · rw [show findJob w k = none from hn] at hk
      cases hk
  · obtain ⟨tv, htv, hcomp⟩ := hJ
    obtain ⟨tc, htc, _, _, hmono⟩ := hP k' tv htv
    exact jobs_filter htc (tCompleted_mono hmono.2 hcomp)

theorem exec_jobs {hT w0 : World} (f : Faults) (p : Prog) (hp : p.All (fun c => TJust hT c ∧ JJust hT c))
    (hW : TInv w0) (hP : TPast hT w0) (hJ : JInv w0) :
    (TInv (exec f p w0 0 []).w ∧ JInv (exec f p w0 0 []).w) ∧ TPast w0 (exec f p w0 0 []).w ∧ JPast w0 (exec f p w0 0 []).w :=
  exec_rel (I := fun w => TInv w ∧ JInv w) (R := fun a b => TPast a b ∧ JPast a b) (fun w => ⟨TPast.refl w, JPast.refl w⟩)
    (fun h1 h2 => ⟨TPast.trans h1.1 h2.1, JPast.trans h1.2 h2.2 h2.1⟩)
    (fun hI hR hc h =>
      have t := apply_pres_trial hI.1 (TPast.trans hP hR.1) hc.1 h
      have j := apply_pres_job (TPast.trans hP hR.1) hc.2 h
      ⟨⟨t.1, j.2 hI.2⟩, t.2, j.1⟩) f hp ⟨hW, hJ⟩

/-! ### only the trial plan deletes run objects, and only for a completed Trial -/

theorem Plan.jjust {v hT : World} {now : Nat} {p : Prog} (hp : Plan v now p) (htr : v.trials = hT.trials) : p.All (JJust hT) := by
  cases hp with
  | exp k => exact expPlan_all fun _ _ _ hc => by cases hc <;> trivial
  | sug k env => exact sugPlan_all fun _ _ _ hc => by cases hc <;> trivial
  | trial k =>
    exact trialPlan_all fun t ht _ hc => by
      cases hc with
      | jobDelete _ _ hc _ => exact ⟨t, by rw [← findTrial_congr htr, findTrial_key ht]; exact ht, hc⟩
      | _ => trivial

/-- on top of `verdictSched`: run-object keys are unique, and a run object of a snapshot that is gone belongs to a completed Trial -/
theorem jobSched : Sched (fun op => ∀ k, op ≠ .userDelete k) (fun _ w => (TInv w ∧ KInv w) ∧ JInv w)
    (fun a b => TPast a b ∧ JPast a b) :=
  verdictSched.extend (I' := fun _ => JInv) id JPast.refl (fun h1 h2 => JPast.trans h1.2 h2.2 h2.1) (fun _ h => h)
    (plan := by
      intro s p f vE vT vS vD hp hI _
      obtain ⟨⟨⟨hWT, _⟩, _⟩, hPT, _⟩ := hI.snap vT
      have h := exec_jobs f p ((hp.tjust (assemble_trials ..) hWT).and (hp.jjust (assemble_trials ..))) hI.cur.1.1 hPT hI.cur.2
      exact ⟨h.1.2, h.2.2⟩)
    (env := by
      intro s op _ hop hI _
      have hJ := hI.cur.2
      have same : ∀ {w'}, w'.jobs = s.cur.jobs → JInv w' ∧ JPast s.cur w' := fun e => ⟨(jobs_same e).2 hJ, (jobs_same e).1⟩
      rcases stepWorld_jobs_cases hop with h | ⟨k', ok, h⟩ | ⟨k', t, ht, hc, h⟩
      · exact same h
      · rw [h]
        refine ⟨?_, fun k hk hn => ?_⟩
        · unfold JInv
          rw [map_key_upd JobO.key s.cur.jobs k' (fun j => { j with state := jobAfter j.state ok }) (fun _ => rfl)]
          exact hJ
        · exfalso
          unfold findJob at hk hn
          rw [find?_map_upd JobO.key s.cur.jobs k k' (fun j => { j with state := jobAfter j.state ok }) (fun _ => rfl)] at hn
          cases hf : List.find? (fun x => decide (x.key = k)) s.cur.jobs with
          | none => rw [hf] at hk; cases hk
          | some j => rw [hf] at hn; cases hn
      · rw [h]
        exact ⟨(jobs_filter ht hc).2 hJ, (jobs_filter ht hc).1⟩)

/-- **C07_deleted_only_when_completed**: over every schedule without Trial deletions a Trial's run object that existed and is gone belongs to a
    Trial that is completed; a Trial has at most one run object at any time (run objects are keyed by the Trial's key and the
    keys are unique). -/
theorem C07_deleted_only_when_completed (es : List ExpInit) (ops : List Op) (hops : ∀ op ∈ ops, ∀ k, op ≠ .userDelete k) :
    let s := run (Sim.init es) ops
    (s.cur.jobs.map (·.key)).Nodup ∧
    (∀ (i : Nat) (h : World), s.hist[i]? = some h → ∀ k, (findJob h k).isSome = true → findJob s.cur k = none →
      ∃ tc, findTrial s.cur k = some tc ∧ tCompleted tc = true) := by
  intro s
  have hI := jobSched.run_init es hops ⟨verdict_init es, List.nodup_nil⟩
  exact ⟨hI.cur.2, fun i h hh => (hI.past i h hh).2.2⟩

/-- C07_release_cleans_db: run the trial reconcile of a Trial that is under deletion and still holds the finalizer, from any
    (possibly stale) view `v`, against any store `w`, under any fault mask and abort point.  Afterwards either no Trial object
    was touched at all (the finalizer is still there), or the metrics database holds no row of that Trial: the finalizer is
    never released, and the Trial never disappears, while its observation log remains. -/
theorem C07_release_cleans_db (v w : World) (k : Key2) (now : Nat) (f : Faults) (i : Nat) (log : List String) (t : TrialO)
    (ht : findTrial v k = some t) (hd : t.deleted = true) (hf : t.fin = true) :
    let o := exec f (trialPlan v k now) w i log
    o.w.trials = w.trials ∨ (o.w.db.any (fun p => p.1 = k.name) = false) := by
  intro o
  simp only [o, C07_db_before_finalizer v k now t ht hd hf]
  unfold exec
  split
  · exact Or.inl rfl
  · split
    · rename_i w' hw
      obtain rfl := applyCall_ok hw
      -- the rows are gone, and what follows does not write the database
      refine Or.inr (exec_preserves (I := fun x => x.db.any (fun p => p.1 = k.name) = false) (P := fun c => c.part ≠ .db) f
        (fun _ _ _ hx hc h => ?_) _ _ _ _ ⟨nofun, trivial, trivial⟩ ?_)
      · rw [(applyCall_frame h).db hc]
        exact hx
      · simp [List.any_filter]
    · exact Or.inl rfl

/-- Non-vacuity of `C07_release_cleans_db`: with no fault the Trial goes away and its two rows with it; with the database
    call failing the Trial (and its finalizer) stay. -/
example :
    let t : TrialO := { key := ⟨"ns", "t1"⟩, exp := "e", fin := true, deleted := true, retain := false, push := false, objType := .maximize, rv := 3 }
    let w : World := { trials := [t], db := [("t1", []), ("t2", [])] }
    ((exec {} (trialPlan w t.key 0) w 0 []).w.trials = [] ∧ (exec {} (trialPlan w t.key 0) w 0 []).w.db = [("t2", [])]) ∧
    ((exec { mask := 1 } (trialPlan w t.key 0) w 0 []).w.trials = [t] ∧ (exec { mask := 1 } (trialPlan w t.key 0) w 0 []).w.db = w.db) := by
  decide

def rcBefore : TrialO :=
  { key := ⟨"ns", "t1"⟩, exp := "e", fin := true, retain := true, push := false, objType := .maximize, rv := 4,
    st := { conds := [⟨.created, true, rTrialCreated, 1⟩, ⟨.running, true, rTrialRunning, 2⟩], started := true } }
def rcAfter : TrialO :=
  { rcBefore with
    rv := 5,
    st := { rcBefore.st with
            conds := [⟨.created, true, rTrialCreated, 1⟩, ⟨.running, false, rTrialRunning, 3⟩, ⟨.succeeded, true, rTrialSucceeded, 3⟩] } }

/-- `C07_recreate_counterexample` (known finding): the live Trial is Succeeded and its run object has been removed by
    someone else; a trial reconcile that still reads the Trial copy from before the completion (a lagging cache; the job
    lookup is live) creates the run object again — for a Trial that is completed.  "Never creates one for a completed
    Trial" therefore holds only for reconciles that read the live Trial (`C07_run_object_guard`: the *viewed* Trial is
    not completed). -/
theorem C07_recreate_counterexample :
    let k : Key2 := ⟨"ns", "t1"⟩
    let view : World := { trials := [rcBefore] }     -- what the cache serves; the job lookup is live: no run object
    let live : World := { trials := [rcAfter] }
    tCompleted rcAfter = true ∧ (findJob live k).isNone = true ∧
    (findJob (exec {} (trialPlan view k 9) live 0 []).w k).isSome = true := by
  decide

end Katib.Ctl
