import Katib.Lemmas.ExpPlan
/-!
# C01 — Trial budget: at most maxTrialCount trials, at most parallelTrialCount active

Statements about every call on every path of `Katib.Ctl.expPlan` (model of `ReconcileExperiment.Reconcile`), for every
view, fault mask and abort point, and the budget arithmetic (`addCount`).  The unbounded-schedule budget invariant
over `Katib.Ctl.step` is in `Katib/Props/C01World.lean`.
-/
namespace Katib.Ctl
open Katib Katib.Exp

def isCreation : Call → Bool
  | .trialCreate _ => true
  | .sugCreate _ => true
  | .sugUpdateReq _ _ _ => true
  | _ => false

/-- C01_no_create_after_verdict: an Experiment that carries a verdict and is not being restarted (see `restartGuard`:
    restartable and maxTrialCount raised above the trials created) gets no new Trial, no new Suggestion and no new
    request — on any path. -/
theorem C01_no_create_after_verdict (v : World) (k : Key2) (now : Nat) (e : ExpO) (he : findExp v k = some e)
    (hfin : e.fin = true) (hdel : e.deleted = false) (hc : isCompleted e.st.conds = true)
    (hcr : Cond.has e.st.conds .created = true) (hr : restartGuard e = false) :
    (expPlan v k now).All (fun c => isCreation c = false) := by
  apply (expPlan_frozen v k now e he hfin hdel hc hcr hr).mono
  intro c hc
  cases c with
  | expStatus _ _ _ | sugStatus _ _ _ => rfl
  | _ => exact absurd hc id

/-- C01_create_only_assignments: a Trial is only ever created for an assignment of the Experiment's own Suggestion that
    has no Trial yet (same name, own namespace, own experiment label): each assignment becomes at most one Trial. -/
theorem C01_create_only_assignments (v : World) (k : Key2) (now : Nat) (e : ExpO) (he : findExp v k = some e) :
    (expPlan v k now).All (fun c => match c with
      | .trialCreate t' => t'.key.ns = k.ns ∧ t'.exp = k.name ∧
          (∃ s, findSug v k = some s ∧ t'.key.name ∈ s.st.names) ∧ ∀ t ∈ trialsOf v k, t.key.name ≠ t'.key.name
      | _ => True) := by
  cases findExp_key he
  apply (expPlan_guard v e.key now e he).mono
  intro c hc
  cases c <;> try trivial
  exact ⟨hc.1, hc.2.1, hc.2.2.1, hc.2.2.2.1⟩

theorem addCount_le (e : ExpO) (st : ExpSt) (m : Int) (hmax : e.maxT = some m) :
    addCount e st ≤ max 0 (m - (completedCount st + activeCount st)) := by
  unfold addCount
  simp only [hmax]
  split <;> split <;> omega

theorem addCount_le_par (e : ExpO) (st : ExpSt) : addCount e st ≤ max 0 (e.par - activeCount st) := by
  unfold addCount
  cases e.maxT with
  | none => simp only []; split <;> omega
  | some m => simp only []; split <;> split <;> omega

theorem addCount_nonneg (e : ExpO) (st : ExpSt) : 0 ≤ addCount e st := by
  unfold addCount
  simp only []
  split <;> omega

/-- C01_add_bound: the number of additionally wanted trials never lifts the active count above parallelTrialCount nor
    completed + active above maxTrialCount (metrics-unavailable trials count as completed). -/
theorem C01_add_bound (e : ExpO) (st : ExpSt) (hact : activeCount st ≤ e.par) :
    0 ≤ addCount e st ∧ activeCount st + addCount e st ≤ e.par ∧
    (∀ m, e.maxT = some m → completedCount st + activeCount st + addCount e st ≤ max m (completedCount st + activeCount st)) := by
  have := addCount_le_par e st
  exact ⟨addCount_nonneg e st, by omega, fun m hm => by have := addCount_le e st m hm; omega⟩

def ReqFormula (ts : List TrialO) (add : Int) : Call → Prop
  | .sugCreate s' => s'.requests = (ts.length : Int) + add - ((ts.filter (fun t => !obsAvailable t.st && tHas t .earlyStopped)).length : Int)
  | .sugUpdateReq _ _ req => req = (ts.length : Int) + add - ((ts.filter (fun t => !obsAvailable t.st && tHas t .earlyStopped)).length : Int)
  | _ => True

/-- the requests formula: `requests = observed trials + addCount − incomplete early-stopped trials` -/
theorem C01_requests_formula (v : World) (e : ExpO) (st : ExpSt) (ts : List TrialO) (add : Int) (now : Nat) :
    (expCreateTrials v e st ts add now).All (ReqFormula ts add) := by
  have fin : ∀ st', (expFinish e st').All (ReqFormula ts add) := fun _ => all_expFinish.2 fun _ => trivial
  have creates : ∀ (l : List String),
      (l.foldr (fun a k => Prog.step (.trialCreate (mkTrial e a)) k k) (expFinish e st)).All (ReqFormula ts add) :=
    fun _ => all_creates.2 ⟨fun _ _ => trivial, fin _⟩
  unfold expCreateTrials
  simp only []
  split
  · exact ⟨rfl, fin _, trivial⟩
  · split
    · exact fin _
    · split
      · exact ⟨rfl, creates _, trivial⟩
      · exact creates _

/-- metrics-unavailable trials are counted as completed when budgeting (the repaired defect of the pinned tree) -/
theorem C01_completed_counts_all_outcomes (st : ExpSt) :
    completedCount st = cnt st.counts 0 + cnt st.counts 1 + cnt st.counts 2 + cnt st.counts 3 + cnt st.counts 5 := by
  unfold completedCount; omega

/-! Non-vacuity: max 3, parallel 3, one metrics-unavailable and two running trials: nothing more is wanted. -/
example : addCount { key := ⟨"ns", "e"⟩, par := 3, maxT := some 3, maxF := none,
                     cfg := ⟨none, .maximize, .never, false, false, false, false⟩ }
                   { counts := [0, 0, 0, 0, 2, 1, 0] } = 0 := by decide

end Katib.Ctl
