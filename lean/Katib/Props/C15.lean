import Katib.Model.Update
/-!
# C15 — After creation only the three budget fields of an Experiment can change

Theorems about `Katib.Upd.admitUpdate` for an arbitrary type `R` of "the rest of the spec".
-/
namespace Katib.Upd
variable {R : Type} [DecidableEq R]

theorem forbidden_iff (new : Spec R) (old : Old R) : (updErrs new old).forbidden = true ↔ new.rest ≠ old.spec.rest := by
  obtain ⟨a, b, c, r⟩ := new
  simp only [updErrs, decide_eq_true_eq, ne_eq, Spec.mk.injEq, true_and]
  exact ⟨fun h e => h e.symm, fun h e => h e.symm⟩

theorem updErrs_none_iff (new : Spec R) (old : Old R) :
    (updErrs new old).none = true ↔
      new.rest = old.spec.rest ∧ (new = old.spec ∨ ((old.completed = true → old.restartable = true) ∧
                                                   (∀ m, new.max = some m → m > old.trials))) := by
  have hf : (updErrs new old).forbidden = false ↔ new.rest = old.spec.rest := by
    rw [← Bool.not_eq_true, forbidden_iff, Decidable.not_not]
  rw [UpdErrs.none, Bool.and_eq_true, Bool.not_eq_true', hf, and_comm]
  refine and_congr_right fun _ => ?_
  have hb : ∀ c r : Bool, (c = false ∨ r = true) ↔ (c = true → r = true) := by decide
  by_cases heq : new = old.spec
  · simp [updErrs, heq]
  · cases hm : new.max <;> simp [updErrs, heq, hm, hb]

/-- C15_iff: (creation checks passing) an update is admitted exactly when the spec is untouched, or only the three budget
    fields differ and — the experiment being completed — it is restartable, and a new maxTrialCount exceeds the trials
    already created. -/
theorem C15_iff (new : Spec R) (old : Old R) :
    admitUpdate true new old = true ↔
      (new = old.spec ∨ (new.rest = old.spec.rest ∧ (old.completed = true → old.restartable = true) ∧
                         (∀ m, new.max = some m → m > old.trials))) := by
  rw [admitUpdate, Bool.true_and, updErrs_none_iff]
  constructor
  · rintro ⟨hr, h | h⟩
    · exact .inl h
    · exact .inr ⟨hr, h⟩
  · rintro (h | ⟨hr, h⟩)
    · exact ⟨h ▸ rfl, .inl h⟩
    · exact ⟨hr, .inr h⟩

/-- C15_noop: an update that leaves the spec untouched (status, metadata, finalizers) adds no error at all. -/
theorem C15_noop (createOk : Bool) (old : Old R) : admitUpdate createOk old.spec old = createOk := by
  rw [admitUpdate, (updErrs_none_iff old.spec old).2 ⟨rfl, .inl rfl⟩, Bool.and_true]

/-- C15_only_budget: whatever else holds, an admitted update differs from the stored spec in at most the three budget fields. -/
theorem C15_only_budget (createOk : Bool) (new : Spec R) (old : Old R) (h : admitUpdate createOk new old = true) :
    new.rest = old.spec.rest :=
  ((updErrs_none_iff new old).1 (Bool.and_eq_true_iff.1 h).2).1

/-- creation-time failures are never masked by the update branch -/
theorem C15_create_checks_kept (new : Spec R) (old : Old R) : admitUpdate false new old = false :=
  Bool.false_and _

/-! Non-vacuity: raising max from 3 to 5 on a restartable completed experiment with 3 trials is admitted; touching the rest is not. -/
example : admitUpdate true (⟨some 1, some 5, none, 0⟩ : Spec Nat) ⟨⟨some 1, some 3, none, 0⟩, 3, true, true⟩ = true := by decide
example : admitUpdate true (⟨some 1, some 5, none, 1⟩ : Spec Nat) ⟨⟨some 1, some 3, none, 0⟩, 3, true, true⟩ = false := by decide
example : admitUpdate true (⟨some 1, some 3, none, 0⟩ : Spec Nat) ⟨⟨some 1, some 3, none, 0⟩, 3, true, false⟩ = true := by decide

end Katib.Upd
