import Katib.Gen.Guards
import Katib.Model.Convert
/-!
# C10: the model of `ConvertTrials` / `convertTrialObservation` decides under the source's path conditions

`Katib/Gen/Guards.lean` (regenerated on every run by `kvh extract guards`, expression switches included) holds the conditions
under which `convertTrialObservation` sends a metric's latest, min or max value, and under which `ConvertTrials` sends a Trial
at all and sends its last condition (pkg/controller.v1beta1/suggestion/suggestionclient/suggestionclient.go).
-/
namespace Katib.Gen
open Katib.Conv

theorem C10_convert_guards_known :
    obsUseLatestGuardUnknown = [] ∧ obsUseMinGuardUnknown = [] ∧ obsUseMaxGuardUnknown = [] ∧ obsAppendGuardUnknown = [] ∧
    trialSentGuardUnknown = [] ∧ trialConditionSentGuardUnknown = [] ∧ obsUseLatestGuardSites = 3 ∧ obsUseMinGuardSites = 1 ∧
    obsUseMaxGuardSites = 1 ∧ obsAppendGuardSites = 1 ∧ trialSentGuardSites = 1 ∧ trialConditionSentGuardSites = 1 := by decide

abbrev CoG := Bool → Bool → Bool → Bool → Bool → Bool → Bool → Bool → Bool → Bool → Bool → Bool → Bool → Bool → Bool

/-- the guards inside the loop over the observation's metrics; `s` = the strategy the map holds for the metric's name -/
def obsG (s : Option String) (m : MetricObs) (g : CoG) : Bool :=
  g true true (decide (s = some "min")) (decide (s = some "max")) (decide (s = some "latest")) (decide (m.min = unavailable))
    (decide (m.max = unavailable)) false false false false false false false

/-- the value chosen for a strategy (the switch of `convertTrialObservation`; no clause = the empty string) -/
def valueGen (s : Option String) (m : MetricObs) : String :=
  if obsG s m obsUseLatestGuard then m.latest else if obsG s m obsUseMinGuard then m.min
  else if obsG s m obsUseMaxGuard then m.max else ""

theorem C10_metric_value_is_source (strategies : List (String × String)) (m : MetricObs) :
    metricValue strategies m = valueGen ((strategies.reverse.find? (fun s => s.1 = m.name)).map (·.2)) m := by
  unfold metricValue
  generalize (strategies.reverse.find? (fun s => s.1 = m.name)).map (·.2) = s
  unfold valueGen obsG obsUseLatestGuard obsUseMinGuard obsUseMaxGuard
  split
  · split <;> simp [*]
  · split <;> simp [*]
  · simp
  · simp_all

/-- **C10_trial_sent_is_source**: the filter of `ConvertTrials` and the "last condition" test -/
theorem C10_trial_sent_is_source (t : TrialIn) :
    (!condHas t.conditions "MetricsUnavailable" && !(condHas t.conditions "EarlyStopped" && !obsAvail t)) =
      trialSentGuard false false false false false false false (condHas t.conditions "MetricsUnavailable") (obsAvail t)
        (condHas t.conditions "EarlyStopped") false false false false ∧
    (convTrial t).condition =
      (if trialConditionSentGuard false false false false false false false false true false false false (!t.conditions.isEmpty) false
       then enumConv "convertTrialConditionType" ((t.conditions.getLast?.map (·.1)).getD "") else "TrialStatus_CREATED") := by
  constructor
  · unfold trialSentGuard
    cases condHas t.conditions "MetricsUnavailable" <;> cases condHas t.conditions "EarlyStopped" <;> cases obsAvail t <;> rfl
  · unfold trialConditionSentGuard convTrial
    cases h : t.conditions with
    | nil => simp
    | cons a l => cases hl : (a :: l).getLast? with
      | none => simp at hl
      | some c => simp

/-- the metrics of a Trial are sent exactly when its observation (and the metric list in it) is set -/
theorem C10_observation_sent_is_source (t : TrialIn) :
    (convTrial t).metrics =
      if obsAppendGuard t.obs.isSome t.obs.isSome false false false false false false false false false false false false
      then (t.obs.getD []).map (fun m => (m.name, metricValue t.strategies m)) else [] := by
  unfold obsAppendGuard convTrial
  cases t.obs <;> simp

/-- the regenerated condition under which one iteration of the loop of `ConvertTrials` sends the Trial -/
def sentGen (t : TrialIn) : Bool :=
  trialSentGuard false false false false false false false (condHas t.conditions "MetricsUnavailable") (obsAvail t)
    (condHas t.conditions "EarlyStopped") false false false false

/-- **C10_convert_trials_loop_is_source**: for every list of Trials (any number, any conditions, with or without observation) what
    the model sends is the in-order concatenation of what the regenerated guard lets each iteration send -/
theorem C10_convert_trials_loop_is_source (ts : List TrialIn) :
    convertTrials ts = ts.flatMap (fun t => if sentGen t then [convTrial t] else []) := by
  unfold convertTrials
  induction ts with
  | nil => simp
  | cons t rest ih =>
    rw [List.flatMap_cons, ← ih, List.filter_cons]
    have h := (C10_trial_sent_is_source t).1
    unfold sentGen
    rw [← h]
    cases (!condHas t.conditions "MetricsUnavailable" && !(condHas t.conditions "EarlyStopped" && !obsAvail t)) <;> simp

/-- a Trial is sent exactly when the regenerated guard holds for it, and nothing else is sent (the order:
    `C10_convert_trials_loop_is_source`) -/
theorem C10_sent_iff_guard (ts : List TrialIn) (p : PTrial) :
    p ∈ convertTrials ts ↔ ∃ t ∈ ts, sentGen t = true ∧ convTrial t = p := by
  simp only [convertTrials, List.mem_map, List.mem_filter, (C10_trial_sent_is_source _).1, and_assoc]
  rfl

end Katib.Gen
