import Katib.Model.Admission
/-!
# C14 — Admission soundness: an admitted Experiment can actually run

Theorems about `Katib.Adm.validate ∘ Exp.setDefault` (model of the defaulting + validating webhooks for creation) for every
Experiment skeleton and every value of the engine oracles, and about the derived resource names for every name.
The known finding C14-algorithm-name-unconstrained (see known_findings.json) is stated as a counterexample theorem; the positive
template theorem (Props/C14Template.lean) is `…_partial` because its hypotheses exclude the regions of three others.
-/
namespace Katib.Adm
open Katib

-- the old `split` re-simplifies every nested `if` after each case, which is slow to check on the validator's chains
set_option backward.split false

theorem tailOk_append (r a : List Char) (hr : tailOk r = true) (ha : a ≠ []) (hta : tailOk a = true) :
    tailOk (r ++ '-' :: a) = true := by
  unfold tailOk at *
  simp only [Bool.and_eq_true] at hr hta ⊢
  refine ⟨?_, ?_⟩
  · simp only [List.all_append, List.all_cons, Bool.and_eq_true]
    exact ⟨hr.1, by decide, hta.1⟩
  · rw [List.getLast?_append, List.getLast?_cons_of_ne_nil ha, Option.or_of_isSome (List.getLast?_isSome.2 ha)]
    exact hta.2

theorem tailOk_of_all_alnum (s : List Char) (h : s.all alnum = true) : tailOk s = true := by
  unfold tailOk
  rw [Bool.and_eq_true]
  refine ⟨?_, ?_⟩
  · rw [List.all_eq_true] at h ⊢
    intro x hx
    simp [labelChar, h x hx]
  · cases hl : s.getLast? with
    | none => rfl
    | some l => exact List.all_eq_true.1 h l (List.mem_of_getLast? hl)

/-- an RFC 1035 label is an RFC 1123 label -/
theorem dns1123Label_of_dns1035 (s : List Char) (h : dns1035 s = true) : dns1123Label s = true := by
  cases s with
  | nil => cases h
  | cons c r =>
    simp only [dns1035, nameRe, Bool.and_eq_true] at h
    simp only [dns1123Label, alnum, Bool.and_eq_true, Bool.or_eq_true]
    exact ⟨⟨Or.inl h.1.1, h.1.2⟩, h.2⟩

theorem tailOk_all (r : List Char) (h : tailOk r = true) : r.all labelChar = true := by
  unfold tailOk at h; simp only [Bool.and_eq_true] at h; exact h.1

/-- C14_names: an admitted Experiment name and an algorithm name of the legal shape give an RFC 1035 label
    `<name>-<algorithm>` — a legal Service, Deployment, PVC and RBAC name. -/
theorem C14_names (n a : List Char) (hn : nameAdmitted n = true) (ha : algoOk a = true) :
    dns1035 (suggestionName n a) = true := by
  unfold nameAdmitted at hn; unfold algoOk at ha; unfold dns1035 suggestionName
  simp only [Bool.and_eq_true, decide_eq_true_eq, Bool.not_eq_true', List.isEmpty_eq_false_iff] at hn ha ⊢
  cases n with
  | nil => cases hn.1
  | cons c r =>
    simp only [List.cons_append, nameRe, Bool.and_eq_true, List.length_append, List.length_cons] at hn ⊢
    exact ⟨⟨hn.1.1, tailOk_append r a hn.1.2 ha.1.1 ha.1.2⟩, by omega⟩

/-- C14_trial_names: `<name>-<suffix>` with a non-empty suffix of at most 22 lower-case alphanumerics (the generator uses 8)
    is an RFC 1123 label: a legal Trial / Job name and label value. -/
theorem C14_trial_names (n sfx : List Char) (hn : nameAdmitted n = true) (hs : sfx ≠ []) (hall : sfx.all alnum = true) (hl : sfx.length ≤ 22) :
    dns1123Label (trialName n sfx) = true := by
  apply dns1123Label_of_dns1035
  apply C14_names n sfx hn
  unfold algoOk
  simp only [Bool.and_eq_true, decide_eq_true_eq, Bool.not_eq_true', List.isEmpty_eq_false_iff]
  exact ⟨⟨hs, tailOk_of_all_alnum sfx hall⟩, hl⟩

/-- the unrepaired rule: without the end anchor `a.b` was admitted; with it, a name with a dot is not -/
example : nameAdmitted "a.b".toList = false ∧ nameAdmitted "my-exp-1".toList = true ∧ nameAdmitted "exp-".toList = false := by
  decide

/-- known finding C14-algorithm-name-unconstrained: katib-config may name an algorithm so that the derived name is illegal -/
theorem C14_algorithm_name_counterexample :
    nameAdmitted "exp".toList = true ∧ dns1035 (suggestionName "exp".toList "My_Algo".toList) = false ∧
    dns1035 (suggestionName "a234567890123456789012345678901234567890".toList "a-very-long-algorithm-name-for-katib".toList) = false := by
  decide +kernel

theorem not_of_ite_nil {c : Prop} [Decidable c] {x : String} (h : (if c then [x] else []) = []) : ¬ c := by
  intro hc
  rw [if_pos hc] at h
  cases h

/-- C14_budget: after defaulting, an Experiment without budget errors runs at least one Trial at a time, has a positive
    trial budget (when bounded) that the parallelism and the failure budget respect, and a non-negative failure budget. -/
theorem C14_budget (b : Budget) (h : budgetErrs b.setDefault = []) :
    ∃ p, b.setDefault.parallel = some p ∧ 1 ≤ p ∧
      (∀ m, b.max = some m → 1 ≤ m ∧ p ≤ m) ∧
      (∀ f, b.maxFailed = some f → 0 ≤ f ∧ ∀ m, b.max = some m → f ≤ m) := by
  obtain ⟨mx, par, mf⟩ := b
  refine ⟨par.getD defaultParallel, rfl, ?_⟩
  simp only [Budget.setDefault, budgetErrs, List.append_eq_nil_iff] at h
  obtain ⟨⟨⟨⟨h1, h2⟩, h3⟩, h4⟩, h5⟩ := h
  generalize par.getD defaultParallel = p at *
  have hp := not_of_ite_nil h3
  refine ⟨by omega, ?_, ?_⟩
  · intro m hm
    subst hm
    have := not_of_ite_nil h2
    have := not_of_ite_nil h5
    omega
  · intro f hf
    subst hf
    have := not_of_ite_nil h1
    refine ⟨by omega, ?_⟩
    intro m hm
    subst hm
    have := not_of_ite_nil h4
    omega

example : budgetErrs ({ max := some 6, parallel := none, maxFailed := some 3 } : Budget).setDefault = [] := by decide
example : budgetErrs ({ max := some 2, parallel := none, maxFailed := none } : Budget).setDefault ≠ [] := by decide

/-- the defaulter leaves the collector set and, per kind, the source pointers the validator and the sidecar webhook dereference -/
theorem setDefaultMC_pointers (m : Option MC) :
    ∃ col, (setDefaultMC m).collector = some col ∧
      (col.kind = "File" ∨ col.kind = "TensorFlowEvent" → ∃ s f, (setDefaultMC m).source = some s ∧ s.fsp = some f) ∧
      (col.kind = "PrometheusMetric" → ∃ s h, (setDefaultMC m).source = some s ∧ s.httpGet = some h) := by
  unfold setDefaultMC
  extract_lets m0 col m1
  refine ⟨col, ?_⟩
  split
  · rename_i hp
    refine ⟨rfl, fun h => ?_, fun _ => ⟨_, _, rfl, rfl⟩⟩
    rw [hp] at h
    simp at h
  rename_i hp
  split
  · exact ⟨rfl, fun _ => ⟨_, _, rfl, rfl⟩, fun h => absurd h hp⟩
  split
  · exact ⟨rfl, fun _ => ⟨_, _, rfl, rfl⟩, fun h => absurd h hp⟩
  rename_i hf ht
  exact ⟨rfl, fun h => (h.elim hf ht).elim, fun h => absurd h hp⟩

/-- C14_no_crash (collector part): `validateMC` dereferences the collector and, per kind, the source pointers of
    `setDefaultMC_pointers`, and nothing else -/
theorem validateMC_ne_crash {m : MC} {col : Collector} (known : Bool) (hcol : m.collector = some col)
    (hfsp : col.kind = "File" ∨ col.kind = "TensorFlowEvent" → ∃ s f, m.source = some s ∧ s.fsp = some f)
    (hget : col.kind = "PrometheusMetric" → ∃ s h, m.source = some s ∧ s.httpGet = some h) :
    validateMC (some m) known ≠ .crash := by
  unfold validateMC
  simp only [hcol]
  -- the chain of kinds: Push / StdOut, File, TensorFlowEvent, PrometheusMetric, Custom, unknown
  split
  · nofun
  split
  · obtain ⟨s, f, hs, hf⟩ := hfsp (.inl ‹_›)
    simp only [hs, hf]
    nofun
  split
  · obtain ⟨s, f, hs, hf⟩ := hfsp (.inr ‹_›)
    simp only [hs, hf]
    nofun
  split
  · obtain ⟨s, g, hs, hg⟩ := hget ‹_›
    simp only [hs, hg]
    nofun
  split
  · nofun
  · nofun

theorem validateMC_custom {m : MC} {col : Collector} {known : Bool} (hcol : m.collector = some col) (hk : col.kind = "Custom")
    (h : validateMC (some m) known = .errs []) : col.custom = true := by
  unfold validateMC at h
  simp [hcol, hk] at h
  exact h.1

/-- without the defaulter the validator does crash (a Prometheus collector without `httpGet`): the defaulter is load-bearing -/
example : validateMC (some { collector := some { kind := "PrometheusMetric", custom := false }, source := none }) true = .crash := by decide

/-- C14_no_crash: validation of a defaulted Experiment never crashes, whatever its content and whatever the engines answer -/
theorem C14_no_crash (e : Exp) : validate e.setDefault ≠ .crash := by
  unfold validate
  split
  · nofun
  split
  · nofun
  cases hmc : validateMC e.setDefault.mc e.setDefault.mcCfgKnown with
  | crash =>
    obtain ⟨col, hcol, hfsp, hget⟩ := setDefaultMC_pointers e.mc
    exact absurd hmc (validateMC_ne_crash e.mcCfgKnown hcol hfsp hget)
  | errs l => nofun

theorem errs_append_nil {a b : List String} (h : a ++ b = []) : a = [] ∧ b = [] := List.append_eq_nil_iff.1 h

/-- an Experiment that validates without error has none in any part; stated for the parts the theorems below read -/
theorem validate_nil {e : Exp} (h : validate e = .errs []) :
    objectiveErrs e.objective = [] ∧ algorithmErrs e.algorithm e.algoKnown = [] ∧
    templateErrs e.template (e.params.map (·.name)) e.dry = [] ∧ paramErrs e.params = [] ∧
    validateMC e.mc e.mcCfgKnown = .errs [] := by
  unfold validate at h
  split at h
  · simp [objectiveErrs] at h
  rename_i o ho
  split at h
  · injection h with h
    exact absurd (errs_append_nil h).2 ‹_›
  cases hmc : validateMC e.mc e.mcCfgKnown with
  | crash => simp only [hmc, reduceCtorEq] at h
  | errs l =>
    simp only [hmc, Outcome.errs.injEq, List.append_eq_nil_iff] at h
    obtain ⟨⟨⟨⟨⟨⟨⟨⟨_, halg⟩, _⟩, _⟩, htpl⟩, _⟩, _⟩, hpar⟩, rfl⟩ := h
    exact ⟨ho ▸ Decidable.not_not.1 ‹_›, halg, htpl, hpar, rfl⟩

theorem bool_ne_of_not_both : ∀ {a b : Bool}, ¬((!a) = true ∧ (!b) = true) → ¬(a = true ∧ b = true) → a ≠ b := by decide

/-- a template tail without errors: exactly one source, a text, and an error-free loop over the trial parameters -/
theorem templateTail_nil {t : Tmpl} {tps : List TP} {pn : List String} {dry : DryRun} (h : templateTail t tps pn dry = []) :
    t.hasSpec ≠ t.hasCM ∧ ∃ text, t.text = some text ∧ (tpLoop pn tps text.toList).errs = [] := by
  unfold templateTail at h
  split at h
  · cases h
  split at h
  · cases h
  split at h
  · cases h
  split at h
  · cases h
  rename_i hnone hboth _ _ text htext
  refine ⟨bool_ne_of_not_both hnone hboth, text, htext, ?_⟩
  simp only [] at h
  split at h
  · exact h
  split at h
  · simp only [List.append_eq_nil_iff] at h
    exact h.1.1
  · simp only [List.append_eq_nil_iff] at h
    exact h.1.1.1.1

theorem templateErrs_nil {t : Option Tmpl} {pn : List String} {dry : DryRun} (h : templateErrs t pn dry = []) :
    ∃ t' tps, t = some t' ∧ t'.tparams = some tps ∧ t'.primary ≠ "" ∧ t'.success ≠ "" ∧ t'.failure ≠ "" ∧
      templateTail t' tps pn dry = [] := by
  unfold templateErrs at h
  split at h
  · cases h
  rename_i t'
  obtain ⟨h12, h3⟩ := errs_append_nil h
  obtain ⟨h1, h2⟩ := errs_append_nil h12
  have hsf := not_of_ite_nil h2
  split at h3
  · cases h3
  rename_i tps htps
  exact ⟨t', tps, rfl, htps, not_of_ite_nil h1, fun h => hsf (.inl h), fun h => hsf (.inr h), h3⟩

/-- C14_pointers: an admitted Experiment has every object the controllers dereference: objective, algorithm, trial template with
    its trial parameters and exactly one source, the parallel trial count and the collector (its kind-specific source pointers:
    `setDefaultMC_pointers`); a custom collector has its container. -/
theorem C14_pointers (e : Exp) (h : validate e.setDefault = .errs []) :
    e.objective.isSome ∧ e.algorithm.isSome ∧ e.setDefault.budget.parallel.isSome ∧
    (∃ t tps, e.setDefault.template = some t ∧ t.tparams = some tps ∧ (t.hasSpec ≠ t.hasCM) ∧ t.primary ≠ "" ∧ t.success ≠ "" ∧ t.failure ≠ "") ∧
    (∃ col, (setDefaultMC e.mc).collector = some col ∧ (col.kind = "Custom" → col.custom = true)) := by
  obtain ⟨hobj, halg, htpl, _, hmc⟩ := validate_nil h
  obtain ⟨t, tps, ht, htps, hp, hs, hf, htail⟩ := templateErrs_nil htpl
  obtain ⟨col, hcol, _, _⟩ := setDefaultMC_pointers e.mc
  refine ⟨?_, ?_, rfl, ⟨t, tps, ht, htps, (templateTail_nil htail).1, hp, hs, hf⟩, col, hcol, fun hk => validateMC_custom hcol hk hmc⟩
  · cases ho : e.objective with
    | none => rw [show e.setDefault.objective = none from ho] at hobj; cases hobj
    | some _ => rfl
  · cases ha : e.algorithm with
    | none => rw [show e.setDefault.algorithm = none from ha] at halg; cases halg
    | some _ => rfl

end Katib.Adm
