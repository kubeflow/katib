import Katib.Lemmas.ExpPlan
import Katib.Lemmas.Sched
import Katib.Lemmas.SugPlan
import Katib.Lemmas.TrialPlan
/-!
# C16 over whole schedules: with resumePolicy LongRunning the algorithm service, once created, is never removed;
# a volume claim is never removed under any policy

`C16_longrunning_service_kept`: for every list of simulator operations (no hypothesis on the schedule: any order of
reconciles, every typed kind read from an arbitrary earlier snapshot, any faults, any environment events, budget edits and
Trial deletions included) and an Experiment created with resumePolicy LongRunning: its Suggestion is never marked Succeeded,
the Suggestion carries the same policy, and the algorithm Deployment and Service, if they existed in any earlier snapshot,
exist now.  `C16_volume_kept`: every PersistentVolumeClaim of any earlier snapshot exists now.
-/
namespace Katib.Ctl
open Katib Katib.Exp

theorem infraKey_inj {a b : Key2} (h : infraKey a = infraKey b) : a = b := by
  injection h with h1 h2
  exact key2_ext h1 ((String.append_left_inj _).1 h2)

/-- the Experiment `k` is LongRunning, so is its Suggestion, and the Suggestion is not Succeeded -/
def LInv (k : Key2) (w : World) : Prop :=
  (∀ e, findExp w k = some e → e.cfg.resume = .longRunning) ∧
  (∀ s, findSug w k = some s → s.resume = .longRunning ∧ sHas s .succeeded = false)

def VPast (h c : World) : Prop := ∀ x, h.pvcs.contains x = true → c.pvcs.contains x = true

/-- the algorithm service of `k` and every volume claim survive from `h` to `c` -/
def DPast (k : Key2) (h c : World) : Prop :=
  ((findDeploy h (infraKey k)).isSome = true → (findDeploy c (infraKey k)).isSome = true) ∧
  (h.svcs.contains (infraKey k) = true → c.svcs.contains (infraKey k) = true) ∧
  (∀ x, h.pvcs.contains x = true → c.pvcs.contains x = true)

theorem DPast.refl (k : Key2) (w : World) : DPast k w w := ⟨id, id, fun _ => id⟩
theorem DPast.trans {k : Key2} {a b c : World} (h1 : DPast k a b) (h2 : DPast k b c) : DPast k a c :=
  ⟨fun x => h2.1 (h1.1 x), fun x => h2.2.1 (h1.2.1 x), fun x hx => h2.2.2 x (h1.2.2 x hx)⟩

/-- what every call of every plan satisfies when the plan was computed from a view that satisfies `LInv k` -/
def LJust (k : Key2) : Call → Prop
  | .sugCreate s' => s'.key = k → s'.resume = .longRunning ∧ sHas s' .succeeded = false
  | .sugStatus k' _ st' => k' = k → Cond.has st'.conds .succeeded = false
  | .deployDelete k' => k' ≠ infraKey k
  | .svcDelete k' => k' ≠ infraKey k
  | _ => True

/-- `LInv` reads the Experiments and the Suggestions only (a view takes them from two snapshots) -/
theorem linv_same {k : Key2} {w wE wS : World} (hE : LInv k wE) (hS : LInv k wS) (he : w.exps = wE.exps) (hs : w.sugs = wS.sugs) :
    LInv k w := by
  unfold LInv
  rw [findExp_congr he, findSug_congr hs]
  exact ⟨hE.1, hS.2⟩

theorem vpast_same {w w' : World} (hp : w'.pvcs = w.pvcs) : VPast w w' := by
  unfold VPast
  rw [hp]
  exact fun _ => id

theorem dpast_same {k : Key2} {w w' : World} (hd : w'.deploys = w.deploys) (hs : w'.svcs = w.svcs) (hp : w'.pvcs = w.pvcs) : DPast k w w' := by
  unfold DPast findDeploy
  rw [hd, hs]
  exact ⟨id, id, vpast_same hp⟩

theorem Frame.linv_dpast {k : Key2} {p : Part} {w w' : World} (fr : Frame p w w') (he : p ≠ .exps) (hs : p ≠ .sugs) (hi : p ≠ .infra)
    (h : LInv k w) : LInv k w' ∧ DPast k w w' :=
  ⟨linv_same h h (fr.exps he) (fr.sugs hs), dpast_same (fr.deploys hi) (fr.svcs hi) (fr.pvcs hi)⟩

/-- a Deployment or Service disappears only by the delete call for its key, a volume claim never -/
theorem applyCall_kept {w w' : World} {c : Call} (h : applyCall w c = .ok w') (x : Key2) :
    (c ≠ .deployDelete x → (findDeploy w x).isSome = true → (findDeploy w' x).isSome = true) ∧
    (c ≠ .svcDelete x → w.svcs.contains x = true → w'.svcs.contains x = true) ∧
    (w.pvcs.contains x = true → w'.pvcs.contains x = true) := by
  by_cases hp : c.part = .infra
  · have he := applyCall_ok h
    cases c with
    | deployCreate k' =>
      obtain ⟨_, rfl⟩ := he
      exact ⟨fun _ => find?_isSome_append DeployO.key _, fun _ => id, id⟩
    | deployDelete k' =>
      obtain ⟨_, rfl⟩ := he
      exact ⟨fun hne => find?_isSome_filter_ne DeployO.key fun e => hne (e ▸ rfl), fun _ => id, id⟩
    | svcCreate k' =>
      obtain ⟨_, rfl⟩ := he
      exact ⟨fun _ => id, fun _ => contains_append_left _, id⟩
    | svcDelete k' =>
      obtain ⟨_, rfl⟩ := he
      exact ⟨fun _ => id, fun hne => contains_filter_ne fun e => hne (e ▸ rfl), id⟩
    | pvcCreate k' =>
      obtain ⟨_, rfl⟩ := he
      exact ⟨fun _ => id, fun _ => id, contains_append_left _⟩
    | saCreate k' | roleCreate k' | rbCreate k' =>
      obtain ⟨_, rfl⟩ := he
      exact ⟨fun _ => id, fun _ => id, id⟩
    | _ => cases hp
  · unfold findDeploy
    rw [(applyCall_frame h).deploys hp, (applyCall_frame h).svcs hp, (applyCall_frame h).pvcs hp]
    exact ⟨fun _ => id, fun _ => id, id⟩

theorem apply_pres_L {k : Key2} {w w' : World} {c : Call} (hL : LInv k w) (hJ : LJust k c) (h : applyCall w c = .ok w') :
    LInv k w' ∧ DPast k w w' := by
  have kept := applyCall_kept h
  refine ⟨⟨?_, ?_⟩, (kept _).1 (fun e => by subst e; exact hJ rfl), (kept _).2.1 (fun e => by subst e; exact hJ rfl), fun x => (kept x).2.2⟩
  · rcases applyCall_exps_cases h with hfr | ⟨_, _, _, _, _, _, _, rfl⟩ | ⟨_, _, _, _, _, _, _, rfl⟩
    · rw [findExp_congr hfr]
      exact hL.1
    · exact find?_map_upd_forall ExpO.key (fun _ => rfl) hL.1 fun e he _ => hL.1 e he
    · exact find?_map_upd_forall ExpO.key (fun _ => rfl) hL.1 fun e he _ => hL.1 e he
  · exact applyCall_findSug h hL.2 (fun hc hk => by subst hc; exact hJ hk) (fun _ s hs => hL.2 s hs)
      (fun hc s hs => by subst hc; exact ⟨(hL.2 s hs).1, hJ rfl⟩)

/-! ### the suggestion plan never writes a status with Succeeded -/

def NoSucc : Call → Prop
  | .sugStatus _ _ st' => Cond.has st'.conds .succeeded = false
  | _ => True

theorem sugPlan_nosucc (v : World) (k : Key2) (env : SugEnv) (now : Nat) (s : SugO) (hs : findSug v k = some s)
    (h : sHas s .succeeded = false) : (sugPlan v k env now).All NoSucc :=
  (sugPlan_spec env now hs).mono fun c hc => by
    cases hc with
    | status hw _ => exact hw.nosucc
    | _ => trivial

/-! ### every call of the three plans is justified when the view satisfies `LInv k` -/

theorem expPlan_ljust (k : Key2) (v : World) (k' : Key2) (now : Nat) (hv : LInv k v) : (expPlan v k' now).All (LJust k) :=
  expPlan_all fun e he c hc => by
    have hres : e.key = k → e.cfg.resume = .longRunning := fun hk => hv.1 e (by rw [← hk, findExp_key he]; exact he)
    cases hc with
    | cleanup _ hr _ _ =>
      intro hk
      rw [hres hk] at hr
      rcases hr with h | h <;> cases h
    | restart _ _ hr _ _ =>
      intro hk
      rw [hres hk] at hr
      cases hr
    | sugCreate _ _ => exact fun hk => ⟨hres hk, rfl⟩
    | _ => trivial

theorem sugPlan_ljust (k : Key2) (v : World) (k' : Key2) (env : SugEnv) (now : Nat) (hv : LInv k v) : (sugPlan v k' env now).All (LJust k) :=
  sugPlan_all fun s hs c hc => by
    -- a Succeeded Suggestion is not that of the LongRunning Experiment `k`
    have live : sHas s .succeeded = true → infraKey s.key ≠ infraKey k := fun hsucc e => by
      rw [findSug_key hs] at e
      rw [infraKey_inj e] at hs
      rw [(hv.2 s hs).2] at hsucc
      cases hsucc
    cases hc with
    | deployDelete h _ | svcDelete h _ => exact live h
    | status hw _ => exact fun _ => hw.nosucc
    | _ => trivial

/-- the trial plan issues no Suggestion write and no delete of algorithm infrastructure -/
theorem trialPlan_ljust (k : Key2) (v : World) (k' : Key2) (now : Nat) : (trialPlan v k' now).All (LJust k) :=
  trialPlan_all fun _ _ _ hc => by cases hc <;> trivial

theorem Plan.ljust (k : Key2) {v : World} {now : Nat} {p : Prog} (hp : Plan v now p) (hv : LInv k v) : p.All (LJust k) := by
  cases hp with
  | exp k' => exact expPlan_ljust k v k' now hv
  | sug k' env => exact sugPlan_ljust k v k' env now hv
  | trial k' => exact trialPlan_ljust k v k' now

theorem exec_pvcs (f : Faults) (p : Prog) (w0 : World) : VPast w0 (exec f p w0 0 []).w :=
  exec_inv (I := VPast w0) f (fun hw h x hx => (applyCall_kept h x).2.2 (hw x hx)) p fun _ => id

/-- under any policy no volume claim is ever removed -/
theorem volSched : Sched (fun _ => True) (fun _ _ => True) VPast where
  refl _ _ := id
  trans h1 h2 x hx := h2 x (h1 x hx)
  push _ h := h
  plan f _ _ _ _ _ _ := ⟨trivial, exec_pvcs f _ _⟩
  env {s op} _ hop _ := by
    refine ⟨trivial, ?_⟩
    cases op with
    | deployReady k' => rcases stepWorld_deployReady s k' with h | h <;> rw [h] <;> exact vpast_same rfl
    | _ => exact vpast_same ((stepWorld_frame hop).pvcs nofun)

/-- the LongRunning Experiment `k` keeps its policy and its algorithm service -/
theorem serviceSched (k : Key2) : Sched (fun _ => True) (fun _ => LInv k) (DPast k) where
  refl := DPast.refl k
  trans := DPast.trans
  push _ h := h
  plan {s p} f vE vT vS vD hp hI :=
    exec_rel (DPast.refl k) DPast.trans (fun hw _ hc h => apply_pres_L hw hc h) f
      (hp.ljust k (linv_same (hI.snap vE).1 (hI.snap vS).1 (assemble_exps ..) (assemble_sugs ..))) hI.cur
  env {s op} _ hop hI := by
    have hL := hI.cur
    cases op with
    | deployReady k' =>
      rcases stepWorld_deployReady s k' with h | h <;> rw [h]
      · exact ⟨hL, DPast.refl k _⟩
      · refine ⟨linv_same hL hL rfl rfl, fun hx => ?_, id, fun _ => id⟩
        unfold findDeploy
        rw [find?_map_upd DeployO.key _ _ _ (fun d => { d with ready := true }) (fun _ => rfl), Option.isSome_map]
        exact hx
    | editMax k' n =>
      rcases stepWorld_editMax s k' n with h | h <;> rw [h]
      · exact ⟨hL, DPast.refl k _⟩
      · exact ⟨⟨find?_map_upd_forall ExpO.key (fun _ => rfl) hL.1 fun e he _ => hL.1 e he, hL.2⟩, dpast_same rfl rfl rfl⟩
    | _ => exact (stepWorld_frame hop).linv_dpast nofun nofun nofun hL

/-- **C16_longrunning_service_kept**: for every list of simulator operations — no hypothesis on the schedule — and an
    Experiment `k` created with resumePolicy LongRunning: at every moment its Suggestion (if it exists) carries the same
    policy and is not Succeeded, and whatever earlier snapshot held the algorithm Deployment or Service of `k`, the current
    store still holds it. -/
theorem C16_longrunning_service_kept (k : Key2) (es : List ExpInit) (ops : List Op)
    (hinit : ∀ e ∈ es, e.key = k → e.cfg.resume = .longRunning) :
    let s := run (Sim.init es) ops
    (∀ sg, findSug s.cur k = some sg → sg.resume = .longRunning ∧ sHas sg .succeeded = false) ∧
    (∀ (i : Nat) (h : World), s.hist[i]? = some h →
      ((findDeploy h (infraKey k)).isSome = true → (findDeploy s.cur (infraKey k)).isSome = true) ∧
      (h.svcs.contains (infraKey k) = true → s.cur.svcs.contains (infraKey k) = true)) := by
  intro s
  have hI := (serviceSched k).run_init es (ops := ops) (fun _ _ => trivial)
    ⟨fun e he => by
      obtain ⟨ei, hei, rfl⟩ := List.mem_map.1 (findExp_mem he)
      exact hinit ei hei (findExp_key he), fun _ h => nomatch h⟩
  exact ⟨hI.cur.2, fun i h hh => ⟨(hI.past i h hh).2.1, (hI.past i h hh).2.2.1⟩⟩

/-- **C16_volume_kept**: over every schedule, under every resume policy, a PersistentVolumeClaim that existed in any
    earlier snapshot exists now (no controller ever deletes one). -/
theorem C16_volume_kept (es : List ExpInit) (ops : List Op) :
    let s := run (Sim.init es) ops
    ∀ (i : Nat) (h : World), s.hist[i]? = some h → ∀ x, h.pvcs.contains x = true → s.cur.pvcs.contains x = true :=
  fun i h hh => ((volSched.run_init es (ops := ops) (fun _ _ => trivial) trivial).past i h hh).2

/-! Non-vacuity: six reconciles of a LongRunning experiment create its Suggestion, Service and Deployment, so the
    antecedents of `C16_longrunning_service_kept` are met by a reachable history. -/
def lrKey : Key2 := ⟨"ns", "exp"⟩
def lrExp : ExpInit :=
  { key := lrKey, par := 1, maxT := some 2, maxF := none,
    cfg := { goal := none, objType := .maximize, resume := .longRunning, es := false, retain := false, push := false, labels := false } }
def lrOps : List Op :=
  [.recExp lrKey 0 0 0 {}, .recExp lrKey 1 1 1 {}, .recExp lrKey 2 2 2 {}, .recSug lrKey 3 3 3 3 {} {}, .recSug lrKey 4 4 4 4 {} {},
   .recSug lrKey 5 5 5 5 {} {}]

example :
    (findSug (run (Sim.init [lrExp]) lrOps).cur lrKey).isSome = true ∧
    (findDeploy (run (Sim.init [lrExp]) lrOps).cur (infraKey lrKey)).isSome = true ∧
    (run (Sim.init [lrExp]) lrOps).cur.svcs.contains (infraKey lrKey) = true := by decide

end Katib.Ctl
