import Katib.Drv.C08S
/-!
# C08S: the model of a sequence of `SyncAssignments` calls (stream C08S) satisfies C08's counting clauses

`Katib.Drv.syncRound` is the model the real `SyncAssignments` sequences are compared with (names canonicalised by first
appearance, so the list is always `n0 … n(count−1)`: append-only and duplicate-free by construction).  Here: a call changes
the count only on a correctly sized reply, and then to exactly `requests`; it never decreases; an error is reported exactly
when something was requested and the reply was not usable; over any sequence the count never exceeds the largest request.
-/
namespace Katib.Drv

theorem C08S_round (st : SyncSt) (req : Int) (kind : String) :
    let r := syncRound st req kind
    (r.1.count = st.count ∨ (kind = "ok" ∧ (r.1.count : Int) = req ∧ (st.count : Int) < req)) ∧
    st.count ≤ r.1.count ∧
    (r.2 = true ↔ ((st.count : Int) < req ∧ kind ≠ "ok")) := by
  unfold syncRound
  simp only []
  split
  · rename_i h
    exact ⟨Or.inl rfl, Nat.le_refl _, by simp; intro h'; omega⟩
  · rename_i h
    split
    · rename_i hk
      have hk' : kind = "ok" := by simpa using hk
      refine ⟨Or.inr ⟨hk', ?_, by omega⟩, by simp, by simp [hk']⟩
      have : ((req - (st.count : Int)).toNat : Int) = req - st.count := Int.toNat_of_nonneg (by omega)
      simp only [Int.natCast_add, this]
      omega
    · rename_i hk
      have hk' : kind ≠ "ok" := by simpa using hk
      exact ⟨Or.inl rfl, Nat.le_refl _, by simp [hk']; omega⟩

def runRounds (st : SyncSt) (rs : List (Int × String)) : SyncSt := rs.foldl (fun s r => (syncRound s r.1 r.2).1) st

/-- over any sequence of calls the number of assignments never exceeds the largest number ever requested -/
theorem C08S_never_more_than_requested (rs : List (Int × String)) (st : SyncSt) (b : Int)
    (h0 : (st.count : Int) ≤ b) (hb : ∀ r ∈ rs, r.1 ≤ b) : ((runRounds st rs).count : Int) ≤ b := by
  induction rs generalizing st with
  | nil => exact h0
  | cons r rs ih =>
    refine ih _ ?_ (fun x hx => hb x (List.mem_cons_of_mem _ hx))
    rcases (C08S_round st r.1 r.2).1 with h | ⟨_, h, _⟩
    · rw [h]
      exact h0
    · rw [h]
      exact hb r List.mem_cons_self

/-- … and never decreases -/
theorem C08S_monotone (rs : List (Int × String)) (st : SyncSt) : st.count ≤ (runRounds st rs).count := by
  induction rs generalizing st with
  | nil => exact Nat.le_refl _
  | cons r rs ih => exact Nat.le_trans (C08S_round st r.1 r.2).2.1 (ih _)

end Katib.Drv
