import Katib.Model.Ui
/-!
# C20 — UI backend: every data endpoint is authorised per user and namespace  (partial)

`C20_guarded_sound` (semantic, for every event list): a handler that passes the static check touches data only in
namespaces the RBAC oracle allows to a request with a user header (derived accesses: only if it allows some namespace).
That a run ends at the first failing gate is the definition of `exec`; no theorem speaks of the status codes.
`C20_all_routes` (`decide` over the table regenerated from the sources on every run): every route passes the static check,
except the trial-template routes — the known finding `C20_template_routes`.  Partial: `fetch_trial_logs` needs a real
clientset and is covered statically only.
-/
namespace Katib.Ui
open Katib.Gen

/-- C20_guarded_sound: under any RBAC oracle, every access performed by a statically guarded handler is in a namespace
    the oracle allows, on a request with a user header; or it is derived (object built from the authorised request / DB
    keyed by trial name), and then the request has a user header and the oracle allows some namespace. -/
theorem C20_guarded_sound (hdr : Bool) (allow : String → Bool) (evs : List UiEv) (authed : List String)
    (hg : guardedFrom authed evs = true) (ha : ∀ n ∈ authed, hdr = true ∧ allow n = true) :
    ∀ a ∈ exec hdr allow evs, (hdr = true ∧ allow a.ns = true) ∨ (derivedNs a.ns = true ∧ hdr = true ∧ ∃ n, allow n = true) := by
  induction evs generalizing authed with
  | nil => exact fun _ h => nomatch h
  | cons e r ih =>
    intro a hmem
    rw [guardedFrom] at hg
    rw [exec] at hmem
    by_cases hgate : isGate e = true
    · rw [if_pos hgate] at hg hmem
      by_cases hok : (hdr && allow e.ns) = true
      · rw [if_pos hok] at hmem
        exact ih (e.ns :: authed) hg (List.forall_mem_cons.2 ⟨Bool.and_eq_true_iff.1 hok, ha⟩) a hmem
      · rw [if_neg hok] at hmem
        cases hmem
    rw [if_neg hgate] at hg hmem
    by_cases hd : isData e = true
    · rw [if_pos hd, Bool.and_eq_true] at hg
      rw [if_pos hd] at hmem
      rcases List.mem_cons.1 hmem with rfl | hmem
      · rcases Bool.or_eq_true_iff.1 hg.1 with h | h
        · exact .inl (ha _ (List.contains_iff_mem.1 h))
        · obtain ⟨hder, hne⟩ := Bool.and_eq_true_iff.1 h
          obtain ⟨n, hn⟩ := List.exists_mem_of_ne_nil authed (by simpa using hne)
          exact .inr ⟨hder, (ha n hn).1, n, (ha n hn).2⟩
      · exact ih authed hg.2 ha a hmem
    · rw [if_neg hd] at hg hmem
      exact ih authed hg ha a hmem

/-- without a user header a statically guarded handler performs no access at all -/
theorem C20_no_header_no_access (allow : String → Bool) (evs : List UiEv) (hg : guardedFrom [] evs = true) :
    exec false allow evs = [] := by
  refine List.eq_nil_iff_forall_not_mem.2 fun a ha => ?_
  rcases C20_guarded_sound false allow evs [] hg (List.forall_mem_nil _) a ha with ⟨h, _⟩ | ⟨_, h, _⟩
  · cases h
  · cases h

/-- C20_all_routes: every route registered by the UI server is statically guarded, except the trial-template routes. -/
theorem C20_all_routes : uiRoutes.all (fun r => guarded r || templateRoute r) = true := by decide +kernel

/-- C20_template_routes (known finding): exactly these routes list ConfigMaps of every namespace before any review
    (and serve the katib namespace's templates unreviewed). -/
theorem C20_template_routes :
    (uiRoutes.filter (fun r => !guarded r)).map (·.path) =
      ["/katib/add_template/", "/katib/delete_template/", "/katib/edit_template/", "/katib/fetch_trial_templates/"] := by decide +kernel

/-- the repaired routes are guarded now -/
theorem C20_repaired_routes_guarded :
    (uiRoutes.filter (fun r => r.path == "/katib/fetch_nas_job_info/" || r.path == "/katib/delete_experiment/")).all guarded = true := by decide +kernel

/-- the table is not empty: the translator found the routes -/
theorem C20_routes_found : 15 ≤ uiRoutes.length := by decide

end Katib.Ui
