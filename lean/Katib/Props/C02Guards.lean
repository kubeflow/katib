import Katib.Gen.Guards
import Katib.Lemmas.Repl
/-!
# C02: one iteration of the model of `applyParameters` decides under the source's path conditions

`Katib/Gen/Guards.lean` (regenerated on every run by `kvh extract guards`, loop entered, expression switch included) holds the
conditions under which one iteration of the loop over `trialParameters` in `DefaultGenerator.applyParameters`
(pkg/controller.v1beta1/experiment/manifest/generator.go) consumes an assignment, takes the Trial's name / namespace / kind /
apiVersion / an annotation / a label, and returns each of its errors.  How a `reference` parses (the two regular expressions)
is an oracle of the model (`Ref`); this file ties what is *done* with the parsed reference to the source.
-/
namespace Katib.Gen
open Katib.Tpl

theorem C02_apply_guards_known :
    consumeGuardUnknown = [] ∧ errNotAssignedGuardUnknown = [] ∧ errIllegalRefGuardUnknown = [] ∧ errNoAnnotationGuardUnknown = [] ∧
    errNoLabelGuardUnknown = [] ∧ useFoundValueGuardUnknown = [] ∧ useNameGuardUnknown = [] ∧ useNamespaceGuardUnknown = [] ∧
    useKindGuardUnknown = [] ∧ useAPIVersionGuardUnknown = [] ∧ consumeGuardSites = 1 ∧ errNotAssignedGuardSites = 1 ∧
    errIllegalRefGuardSites = 2 ∧ errNoAnnotationGuardSites = 1 ∧ errNoLabelGuardSites = 1 ∧ useFoundValueGuardSites = 3 ∧
    useNameGuardSites = 1 ∧ useNamespaceGuardSites = 1 ∧ useKindGuardSites = 1 ∧ useAPIVersionGuardSites = 1 := by decide

abbrev TplG := Bool → Bool → Bool → Bool → Bool → Bool → Bool → Bool → Bool → Bool → Bool → Bool → Bool → Bool → Bool → Bool → Bool

/-- the value a reference looks up (assignment map, annotations, labels) -/
def found (m : Meta) (asg : List (String × String)) : Ref → Option String
  | .assign r => lookupLast asg r
  | .metaAnnotation k => lookupS m.annotations k
  | .metaLabel k => lookupS m.labels k
  | _ => none

/-- the atoms for a parsed reference (template read and parsed without error).  An `illegal` reference is one with a malformed
    index (`viaIndex`) or one whose key is none of the six; `d` stands for lookups that are not made -/
def tplG (m : Meta) (asg : List (String × String)) (ref : Ref) (viaIndex d : Bool) (g : TplG) : Bool :=
  let f := (found m asg ref).isSome
  match ref with
  | .assign _ => g false false false true f d d d d d d d d d d false
  | .metaName => g false false false false d d d false d true false false false false false false
  | .metaNamespace => g false false false false d d d false d false true false false false false false
  | .metaKind => g false false false false d d d false d false false true false false false false
  | .metaAPIVersion => g false false false false d d d false d false false false true false false false
  | .metaAnnotation _ => g false false false false d f d true false false false false false true false false
  | .metaLabel _ => g false false false false d d f true false false false false false false true false
  | .illegal => g false false false false d d d viaIndex true false false false false false false false

/-- one iteration written with the generated guards: the error, or the placeholder's value and what it adds to the count -/
def stepGen (m : Meta) (asg : List (String × String)) (ref : Ref) (viaIndex d : Bool) : Except Err (String × Nat) :=
  let G := tplG m asg ref viaIndex d
  if G errNotAssignedGuard then .error .notInAssignment
  else if G errIllegalRefGuard || G errNoAnnotationGuard || G errNoLabelGuard then .error .illegalMeta
  else
    let v := if G useFoundValueGuard then (found m asg ref).getD ""
      else if G useNameGuard then m.trialName
      else if G useNamespaceGuard then m.trialNamespace
      else if G useKindGuard then m.kind
      else if G useAPIVersionGuard then m.apiVersion
      else ""
    .ok (v, if G consumeGuard then 1 else 0)

/-- the whole loop written with the generated guards: every declared parameter (with what its reference parsed to and how) is one
    `stepGen`; the first error ends the loop, otherwise the entries are kept in declaration order and the counts add up -/
def loopGen (m : Meta) (asg : List (String × String)) (d : Bool) : List ((String × Ref) × Bool) → Except Err (List (String × String) × Nat)
  | [] => .ok ([], 0)
  | ((name, ref), viaIndex) :: rest =>
    match stepGen m asg ref viaIndex d with
    | .error e => .error e
    | .ok (v, c) =>
      match loopGen m asg d rest with
      | .error e => .error e
      | .ok (ps, n) => .ok ((name, v) :: ps, n + c)

/-- the step written with the generated guards computes what the model's loop body computes for a reference -/
theorem stepGen_eq_refValue (m : Meta) (asg : List (String × String)) (ref : Ref) (viaIndex d : Bool) :
    stepGen m asg ref viaIndex d = refValue m asg ref := by
  unfold stepGen tplG
  cases ref with
  | assign r =>
    rw [refValue, found]
    dsimp only
    cases lookupLast asg r <;> rfl
  | metaName => rfl
  | metaNamespace => rfl
  | metaKind => rfl
  | metaAPIVersion => rfl
  | metaAnnotation k =>
    rw [refValue, found]
    dsimp only
    cases lookupS m.annotations k <;> rfl
  | metaLabel k =>
    rw [refValue, found]
    dsimp only
    cases lookupS m.labels k <;> rfl
  | illegal => cases viaIndex <;> rfl

theorem C02_iteration_is_source (m : Meta) (asg : List (String × String)) (name : String) (ref : Ref) (viaIndex d : Bool) :
    buildMap m asg [(name, ref)] =
      match stepGen m asg ref viaIndex d with
      | .error e => .error e
      | .ok (v, c) => .ok ([(name, v)], c) := by
  rw [buildMap_cons, stepGen_eq_refValue]
  cases refValue m asg ref with
  | error e => rfl
  | ok p => simp only [buildMap, Nat.zero_add]

/-- **C02_loop_is_source**: for every list of declared parameters (any length, any mix of references, any way an illegal
    reference came about, any value of the lookups that are not made) the model's loop is the iteration of the step that decides
    under the regenerated path conditions -/
theorem C02_loop_is_source (m : Meta) (asg : List (String × String)) (d : Bool) (ps : List ((String × Ref) × Bool)) :
    buildMap m asg (ps.map (·.1)) = loopGen m asg d ps := by
  induction ps with
  | nil => rfl
  | cons p rest ih =>
    obtain ⟨⟨name, ref⟩, viaIndex⟩ := p
    rw [List.map_cons, buildMap_cons, ih, ← stepGen_eq_refValue m asg ref viaIndex d]
    rfl

/-- **C02_placeholders_is_source**: `applyParameters` as a whole — the loop of generated steps, then the count check against the
    number of assignments (the check after the loop is tied to the source below, by `C02_after_loop_is_source`) -/
theorem C02_placeholders_is_source (m : Meta) (asg : List (String × String)) (d : Bool) (ps : List ((String × Ref) × Bool)) :
    placeholders m asg (ps.map (·.1)) =
      match loopGen m asg d ps with
      | .error e => .error e
      | .ok (es, n) => if asg.length ≠ n then .error .notInTrialParameters else .ok (dedupLast es) := by
  unfold placeholders; rw [C02_loop_is_source m asg d ps]
  rcases loopGen m asg d ps with e | ⟨es, n⟩ <;> rfl

/-- non-vacuity: a two-parameter loop with one assignment and one metadata reference goes through both steps -/
example : loopGen { trialName := "t", trialNamespace := "ns", kind := "Job", apiVersion := "batch/v1", annotations := [], labels := [] }
    [("lr", "0.1")] false [(("a", .assign "lr"), false), (("b", .metaName), false)] = .ok ([("a", "0.1"), ("b", "t")], 1) := by rfl

/-! ### after the loop

`errCountGuard`, `replaceAllGuard` and `returnTemplateGuard` are the regenerated conditions of the three sites that follow the loop
(the count error, the replacement of the placeholders, the successful return).  The loop itself is passed under the atom
`loopDone` = "it ran to its end without returning", which on the model is `buildMap … = .ok _` (and the loop is the iteration of
the generated step by `C02_loop_is_source`); `countMismatch` = `len(assignments) != nonMetaParamCount`. -/

theorem C02_after_loop_guards_known :
    errCountGuardUnknown = [] ∧ replaceAllGuardUnknown = [] ∧ returnTemplateGuardUnknown = [] ∧
    errCountGuardSites = 1 ∧ replaceAllGuardSites = 1 ∧ returnTemplateGuardSites = 1 := by decide

/-- what follows the loop, written with the generated guards (template read and parsed without error; `specNil` = whether it had
    to be parsed here; `d` = the count comparison that is not reached when the loop returned) -/
def afterLoopGen (r : Except Err (List (String × String) × Nat)) (asgLen : Nat) (specNil d : Bool) : Except Err (List (String × String)) :=
  let done := match r with | .ok _ => true | .error _ => false
  let mism := match r with | .ok (_, n) => decide (asgLen ≠ n) | .error _ => d
  let G (g : Bool → Bool → Bool → Bool → Bool → Bool → Bool) := g false false specNil done mism false
  if G errCountGuard then .error .notInTrialParameters
  else match r with
    | .error e => .error e
    | .ok (ps, _) => if G replaceAllGuard && G returnTemplateGuard then .ok (dedupLast ps) else .error .notInTrialParameters

/-- **C02_after_loop_is_source**: the count error is returned, and the placeholders are replaced and the template returned, under
    exactly the regenerated path conditions of the three sites after the loop -/
theorem C02_after_loop_is_source (m : Meta) (asg : List (String × String)) (params : List (String × Ref)) (specNil d : Bool) :
    placeholders m asg params = afterLoopGen (buildMap m asg params) asg.length specNil d := by
  unfold placeholders afterLoopGen errCountGuard replaceAllGuard returnTemplateGuard
  rcases buildMap m asg params with e | ⟨ps, n⟩
  · cases specNil <;> simp
  · by_cases h : asg.length = n <;> cases specNil <;> simp [h]

/-- the template is returned exactly when the loop ended without an error and the counts agree; after a loop that returned,
    none of the three sites is reached -/
theorem C02_return_guard_exact (specNil d : Bool) (r : Except Err (List (String × String) × Nat)) (asgLen : Nat) :
    (∀ e, r = .error e → errCountGuard false false specNil false d false = false ∧
      replaceAllGuard false false specNil false d false = false ∧ returnTemplateGuard false false specNil false d false = false) ∧
    (∀ ps n, r = .ok (ps, n) →
      (returnTemplateGuard false false specNil true (decide (asgLen ≠ n)) false = true ↔ asgLen = n) ∧
      replaceAllGuard false false specNil true (decide (asgLen ≠ n)) false =
        returnTemplateGuard false false specNil true (decide (asgLen ≠ n)) false) := by
  unfold errCountGuard replaceAllGuard returnTemplateGuard
  constructor
  · intro e _; cases specNil <;> simp
  · intro ps n _; cases specNil <;> simp

/-- **C02_applyParameters_is_source**: the loop of generated steps followed by the generated sites after it — every decision of
    the model of `applyParameters` is made under a path condition regenerated from the source -/
theorem C02_applyParameters_is_source (m : Meta) (asg : List (String × String)) (specNil d : Bool) (ps : List ((String × Ref) × Bool)) :
    placeholders m asg (ps.map (·.1)) = afterLoopGen (loopGen m asg d ps) asg.length specNil d := by
  rw [C02_after_loop_is_source m asg _ specNil d, C02_loop_is_source m asg d ps]

end Katib.Gen
