import Katib.Gen.Guards
import Katib.Model.Reconcile
/-!
# The model's `UpdateTrialStatusCondition` is the source's, rebuilt from its regenerated path conditions

`Katib/Gen/Guards.lean` (regenerated on every run) holds the conditions under which `UpdateTrialStatusCondition`
(pkg/controller.v1beta1/trial/trial_controller_util.go) reaches `MarkTrialStatusSucceeded`, `…MetricsUnavailable`, `…Failed` and
`…Running`.  `trialUpdateConditionGen` puts the model's four writes behind exactly these conditions; the hand-written model
function is that function, for every Trial, status, job condition and time.
-/
namespace Katib.Gen
open Katib Katib.Ctl

def trialUpdateConditionGen (t : TrialO) (st : TrialSt) (js : JobCond) (now : Nat) : Prog :=
  let has (c : TCT) := Cond.has st.conds c
  let at_ (g : Bool → Bool → Bool → Bool → Bool → Bool → Bool → Bool → Bool → Bool → Bool → Bool → Bool → Bool → Bool) : Bool :=
    g (js == .succeeded) (js == .failed) (js == .running) (obsAvailable st) (has .succeeded) (has .earlyStopped) (has .metricsUnavailable)
      (has .failed) (has .running) t.push false false false false
  if at_ markSucceededGuard then
    trialFinish t { st with conds := tMark st.conds .succeeded rTrialSucceeded now, completion := some now }
  else if at_ markUnavailableGuard then
    let k := trialFinish t { st with conds := tMark st.conds .metricsUnavailable rTrialMU now, completion := some now }
    if t.push then .step (.dbReport t.key.name unavailableEntry) k (.done .requeueAfter) else k
  else if at_ markFailedGuard then
    trialFinish t { st with conds := tMark st.conds .failed rTrialFailed now, completion := some now }
  else if at_ markRunningGuard then
    trialFinish t { st with conds := Cond.set st.conds .running true rTrialRunning now }
  else trialFinish t st

/-- the translator met only conditions it knows and exactly one call site for each mark -/
theorem C06_mark_guards_known :
    markSucceededGuardUnknown = [] ∧ markUnavailableGuardUnknown = [] ∧ markFailedGuardUnknown = [] ∧ markRunningGuardUnknown = [] ∧
    markSucceededGuardSites = 1 ∧ markUnavailableGuardSites = 1 ∧ markFailedGuardSites = 1 ∧ markRunningGuardSites = 1 := by decide

theorem C06_update_condition_is_source (t : TrialO) (st : TrialSt) (js : JobCond) (now : Nat) :
    trialUpdateCondition t st js now = trialUpdateConditionGen t st js now := by
  unfold trialUpdateCondition trialUpdateConditionGen markSucceededGuard markUnavailableGuard markFailedGuard markRunningGuard
  cases js
  · by_cases hx : (obsAvailable st && !Cond.has st.conds .succeeded) = true
    · simp [hx]
    · simp [hx]
  · simp
  · simp

/-! ## `reconcileTrial` after `reconcileJob`: observation read, requeue, condition update -/

def trialAfterJobGen (v : World) (t : TrialO) (state : JobState) (now : Nat) : Prog :=
  let js? := jsOf state (tHas t .running)
  let G (obsNil : Bool) (g : Bool → Bool → Bool → Bool → Bool → Bool → Bool → Bool → Bool → Bool) : Bool :=
    g false true (tCompleted t) (tHas t .earlyStopped) js?.isNone (js? == some .succeeded) obsNil t.push false
  let cont (st : TrialSt) : Prog :=
    if G st.obs.isNone requeueNoMetricsGuard then .done .requeueAfter
    else if G st.obs.isNone callUpdateConditionGuard then
      (match js? with | some js => trialUpdateCondition t st js now | none => trialFinish t t.st)
    else trialFinish t t.st
  if G false callObservationGuard then
    let logs := dbOf v t.key.name
    if logs.isEmpty then .step (.dbGet t.key.name) (cont t.st) (.done .err)
    else match Metrics.getMetrics logs [objMetric] with
      | some ms => .step (.dbGet t.key.name) (cont { t.st with obs := some (ms.map (fun m => { m with lastTs := none })) }) (.done .err)
      | none => .step (.dbGet t.key.name) (.done .err) (.done .err)
  else cont t.st

theorem C06_reconcile_trial_guards_known :
    callObservationGuardUnknown = [] ∧ requeueNoMetricsGuardUnknown = [] ∧ callUpdateConditionGuardUnknown = [] ∧
    callObservationGuardSites = 1 ∧ requeueNoMetricsGuardSites = 1 ∧ callUpdateConditionGuardSites = 1 := by decide

theorem ite_else_bnot {α : Sort _} (b : Bool) (x y z : α) :
    (if b = true then x else if (!b) = true then y else z) = if b = true then x else y := by
  cases b <;> rfl

section
variable (c es nj s on p u : Bool)

/-! the three conditions of `reconcileTrial` when no call fails and the job is deployed: all of them under "not completed or
    early stopped" and "the job has a status" -/

theorem callObservationGuard_eq :
    callObservationGuard false true c es nj s on p u = ((!c || es) && !nj && (s || es)) := rfl

theorem requeueNoMetricsGuard_eq :
    requeueNoMetricsGuard false true c es nj s on p u = ((!c || es) && !nj && (s && on && !p)) := by
  simp only [requeueNoMetricsGuard, Bool.not_false, Bool.true_and, Bool.and_true, Bool.or_not_self]

theorem callUpdateConditionGuard_eq :
    callUpdateConditionGuard false true c es nj s on p u = ((!c || es) && !nj && !(s && on && !p)) := by
  simp only [callUpdateConditionGuard, Bool.not_false, Bool.true_and, Bool.and_true, Bool.or_not_self, Bool.and_assoc]

end

/-- **C06_reconcile_trial_is_source**: when the observation is read, when the reconcile is requeued for missing metrics and
    when the conditions are updated — the model's `trialAfterJob` is the function rebuilt from the regenerated path conditions -/
theorem C06_reconcile_trial_is_source (v : World) (t : TrialO) (state : JobState) (now : Nat) :
    trialAfterJob v t state now = trialAfterJobGen v t state now := by
  unfold trialAfterJob trialAfterJobGen trialObserve
  simp only [callObservationGuard_eq, requeueNoMetricsGuard_eq, callUpdateConditionGuard_eq]
  cases (!tCompleted t || tHas t .earlyStopped)
  · simp
  · cases jsOf state (tHas t .running) with
    | none => simp
    | some js =>
      -- the update is the `else` of the requeue test; `==` on `Option JobCond` comes from its `DecidableEq`
      simp only [Bool.not_true, Bool.not_false, Option.isNone_some, Bool.true_and, Bool.false_eq_true, if_false, ite_else_bnot,
        Bool.beq_eq_decide_eq, Option.some.injEq]
      rfl

/-- **C06_mark_guards_exclusive**: stated on the regenerated conditions alone — in one call of `UpdateTrialStatusCondition`, for
    every job outcome and every combination of conditions the Trial carries, at most one of the four `MarkTrialStatus…` calls
    is reached; an early-stopped Trial reaches none of Succeeded / Failed / Running, a Trial that already carries a verdict is not
    given the same one again, and Succeeded needs an available observation -/
theorem C06_mark_guards_exclusive (hasMessage hasReason u : Bool) :
    ∀ (jobSucceeded jobFailed jobRunning obsAvailable succeeded earlyStopped metricsUnavailable failed running push reportFailed : Bool),
    (markSucceededGuard jobSucceeded jobFailed jobRunning obsAvailable succeeded earlyStopped metricsUnavailable failed running push reportFailed hasMessage hasReason u).toNat + (markUnavailableGuard jobSucceeded jobFailed jobRunning obsAvailable succeeded earlyStopped metricsUnavailable failed running push reportFailed hasMessage hasReason u).toNat +
      (markFailedGuard jobSucceeded jobFailed jobRunning obsAvailable succeeded earlyStopped metricsUnavailable failed running push reportFailed hasMessage hasReason u).toNat + (markRunningGuard jobSucceeded jobFailed jobRunning obsAvailable succeeded earlyStopped metricsUnavailable failed running push reportFailed hasMessage hasReason u).toNat ≤ 1 ∧
    (earlyStopped = true →
      markSucceededGuard jobSucceeded jobFailed jobRunning obsAvailable succeeded earlyStopped metricsUnavailable failed running push reportFailed hasMessage hasReason u = false ∧
      markFailedGuard jobSucceeded jobFailed jobRunning obsAvailable succeeded earlyStopped metricsUnavailable failed running push reportFailed hasMessage hasReason u = false ∧
      markRunningGuard jobSucceeded jobFailed jobRunning obsAvailable succeeded earlyStopped metricsUnavailable failed running push reportFailed hasMessage hasReason u = false) ∧
    (markSucceededGuard jobSucceeded jobFailed jobRunning obsAvailable succeeded earlyStopped metricsUnavailable failed running push reportFailed hasMessage hasReason u = true →
      obsAvailable = true ∧ succeeded = false ∧ jobSucceeded = true) ∧
    (markFailedGuard jobSucceeded jobFailed jobRunning obsAvailable succeeded earlyStopped metricsUnavailable failed running push reportFailed hasMessage hasReason u = true →
      failed = false ∧ jobFailed = true ∧ jobSucceeded = false) ∧
    (markUnavailableGuard jobSucceeded jobFailed jobRunning obsAvailable succeeded earlyStopped metricsUnavailable failed running push reportFailed hasMessage hasReason u = true →
      metricsUnavailable = false ∧ jobSucceeded = true) := by
  intro js jf jr oa su es mu fa ru push rf
  refine ⟨?_, ?_, ?_, ?_, ?_⟩
  · -- Succeeded / Unavailable lie under a succeeded job, on the two sides of `oa && !su`; Failed / Running under a job that has
    -- not succeeded, on the two sides of the test for Failed: in each of the four cases three summands are 0
    unfold markSucceededGuard markUnavailableGuard markFailedGuard markRunningGuard
    cases js
    · generalize ((jf && !fa) && !es) = y
      cases y <;> simp [Bool.toNat_le]
    · generalize (oa && !su) = x
      cases x <;> simp [Bool.toNat_le]
  · rintro rfl
    simp [markSucceededGuard, markFailedGuard, markRunningGuard]
  · simp +contextual [markSucceededGuard]
  · simp +contextual [markFailedGuard]
  · simp +contextual [markUnavailableGuard]

end Katib.Gen
