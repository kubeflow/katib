import Katib.Gen.Guards
import Katib.Model.Update
/-!
# C15: the model's three update errors are raised under the source's path conditions

`Katib/Gen/Guards.lean` (regenerated on every run by `kvh extract guards`) holds the conditions under which the update branch
of `DefaultValidator.ValidateExperiment` appends "can be restarted if …" (`spec.resumePolicy`), "must be greater than
status.trials count" (`spec.maxTrialCount`) and the Forbidden error on `spec`.  The model's `updErrs` raises each error under
exactly that condition, with the atoms read as: `isRestarting` = the submitted spec differs from the stored one, the second
`DeepEqual` = equality after the three budget fields were copied over.
-/
namespace Katib.Gen
open Katib.Upd

theorem C15_update_guards_known :
    updNotRestartableGuardUnknown = [] ∧ updMaxNotAboveGuardUnknown = [] ∧ updForbiddenGuardUnknown = [] ∧
    updNotRestartableGuardSites = 1 ∧ updMaxNotAboveGuardSites = 1 ∧ updForbiddenGuardSites = 1 := by decide

/-- the generated guards at an update (`oldInst != nil`), the name / budget checks before it having no early return -/
def updG {R : Type} [DecidableEq R] (new : Spec R) (old : Old R)
    (g : Bool → Bool → Bool → Bool → Bool → Bool → Bool → Bool → Bool → Bool → Bool → Bool → Bool → Bool → Bool → Bool → Bool → Bool → Bool) : Bool :=
  g true (decide (new ≠ old.spec)) old.completed old.restartable new.max.isSome
    (match new.max with | some m => decide (m ≤ old.trials) | none => false)
    (decide (new = old.spec)) (decide ({ old.spec with par := new.par, max := new.max, mf := new.mf } = new))
    true false false false false false false false false false

theorem C15_update_errors_are_source {R : Type} [DecidableEq R] (new : Spec R) (old : Old R) :
    updErrs new old =
      { notRestartable := updG new old updNotRestartableGuard, maxNotAbove := updG new old updMaxNotAboveGuard,
        forbidden := updG new old updForbiddenGuard } := by
  unfold updErrs updG updNotRestartableGuard updMaxNotAboveGuard updForbiddenGuard
  cases new.max <;> simp

end Katib.Gen
