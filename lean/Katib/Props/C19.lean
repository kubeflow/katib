import Katib.Model.DB
import Katib.Gen.DbSites
/-!
# C19 — Observation-log storage treats all strings as data and never crashes

Theorems about `Katib.DB.register/get/delete` for both dialects and every request, plus `C19_sites_constant` over the
table of database call sites that the translator regenerates from pkg/db on every run (`Katib/Gen/DbSites.lean`).
-/
namespace Katib.DB

theorem collect_ok (trial : String) (es : List LogEntry) (args : List String) (h : collect trial es = .ok args) :
    args = (es.filter (fun e => e.ts ≠ .empty)).flatMap (fun e =>
      match e.ts, e.metric with
      | .ok f, some (n, v) => [trial, f, n, v]
      | _, _ => []) ∧
    args.length = 4 * (es.filter (fun e => e.ts ≠ .empty)).length ∧
    ∀ e ∈ es, e.ts ≠ .empty → ∃ f n v, e.ts = .ok f ∧ e.metric = some (n, v) := by
  induction es generalizing args with
  | nil =>
    cases h
    exact ⟨rfl, rfl, fun _ he => nomatch he⟩
  | cons e es ih =>
    obtain ⟨ts, m⟩ := e
    cases ts with
    | empty =>
      obtain ⟨h1, h2, h3⟩ := ih args h
      exact ⟨h1, h2, List.forall_mem_cons.mpr ⟨fun hne => absurd rfl hne, h3⟩⟩
    | bad => cases m <;> cases h
    | ok f =>
      cases m with
      | none => cases h
      | some nv =>
        obtain ⟨n, v⟩ := nv
        cases hr : collect trial es with
        | error x => simp only [collect, hr] at h; cases h
        | ok r =>
          simp only [collect, hr] at h
          cases h
          obtain ⟨h1, h2, h3⟩ := ih r hr
          rw [List.filter_cons_of_pos rfl]
          exact ⟨congrArg (trial :: f :: n :: v :: ·) h1, by simp only [List.length_cons, h2]; omega,
            List.forall_mem_cons.mpr ⟨fun _ => ⟨f, n, v, rfl, rfl⟩, h3⟩⟩

theorem register_ok (d : Dialect) (trial : String) (es : List LogEntry) (s : Stmt)
    (h : register d trial (some es) = .ok s) :
    ∃ args, collect trial es = .ok args ∧ s = ⟨insertSql d (args.length / 4), args⟩ := by
  simp only [register] at h
  cases hc : collect trial es with
  | error x => rw [hc] at h; cases h
  | ok args => rw [hc] at h; exact ⟨args, rfl, (Except.ok.inj h).symm⟩

/-- C19_insert_text: the INSERT text depends only on the number of timestamped entries — never on any string of the request. -/
theorem C19_insert_text (d : Dialect) (trial : String) (es : List LogEntry) (s : Stmt)
    (h : register d trial (some es) = .ok s) :
    s.sql = insertSql d (es.filter (fun e => e.ts ≠ .empty)).length ∧ s.args.length = 4 * (es.filter (fun e => e.ts ≠ .empty)).length := by
  obtain ⟨args, hc, rfl⟩ := register_ok d trial es s h
  obtain ⟨_, hl, _⟩ := collect_ok trial es args hc
  exact ⟨by rw [hl, Nat.mul_div_cancel_left _ (by decide)], hl⟩

/-- two requests with equally many timestamped entries issue the same statement text (content-independence) -/
theorem C19_insert_text_independent (d : Dialect) (t1 t2 : String) (es1 es2 : List LogEntry) (s1 s2 : Stmt)
    (h1 : register d t1 (some es1) = .ok s1) (h2 : register d t2 (some es2) = .ok s2)
    (hn : (es1.filter (fun e => e.ts ≠ .empty)).length = (es2.filter (fun e => e.ts ≠ .empty)).length) : s1.sql = s2.sql := by
  rw [(C19_insert_text d t1 es1 s1 h1).1, (C19_insert_text d t2 es2 s2 h2).1, hn]

/-- C19_insert_args: one row per timestamped entry, in order, carrying trial name, formatted UTC time, metric name and value. -/
theorem C19_insert_args (d : Dialect) (trial : String) (es : List LogEntry) (s : Stmt)
    (h : register d trial (some es) = .ok s) :
    s.args = (es.filter (fun e => e.ts ≠ .empty)).flatMap (fun e =>
      match e.ts, e.metric with
      | .ok f, some (n, v) => [trial, f, n, v]
      | _, _ => []) ∧
    ∀ e ∈ es, e.ts ≠ .empty → ∃ f n v, e.ts = .ok f ∧ e.metric = some (n, v) := by
  obtain ⟨args, hc, rfl⟩ := register_ok d trial es s h
  obtain ⟨ha, _, hall⟩ := collect_ok trial es args hc
  exact ⟨ha, hall⟩

/-- C19_parse_error_no_statement: a missing sub-message or an unparsable timestamp yields an error and no statement. -/
theorem C19_parse_error_no_statement (d : Dialect) (trial : String) (log : Option (List LogEntry)) :
    (log = none ∨ ∃ es, log = some es ∧ ∃ e ∈ es, e.ts = .bad ∨ (e.ts ≠ .empty ∧ e.metric = none)) →
    ∃ x, register d trial log = .error x := by
  rintro (rfl | ⟨es, rfl, e, he, hbad⟩)
  · exact ⟨_, rfl⟩
  · cases hc : collect trial es with
    | error x => exact ⟨x, by simp only [register, hc]⟩
    | ok args =>
      -- a log that is collected has no such entry
      have hall := (collect_ok trial es args hc).2.2 e he
      rcases hbad with hb | ⟨hne, hm⟩
      · obtain ⟨f, n, v, hts, _⟩ := hall (by rw [hb]; exact Ts.noConfusion)
        rw [hb] at hts
        cases hts
      · obtain ⟨f, n, v, _, hm'⟩ := hall hne
        rw [hm] at hm'
        cases hm'

/-- C19_get_text: the SELECT text depends only on which filters are present; the arguments are the trial name followed by
    the present filters in the order metric, start, end. -/
theorem C19_get_text (d : Dialect) (trial metric : String) (start end_ : Filter) (s : Stmt)
    (h : get d trial metric start end_ = .ok s) :
    s.sql = selectSql d (metric ≠ "") (start ≠ .absent) (end_ ≠ .absent) ∧
    s.args = trial :: ((if metric = "" then [] else [metric]) ++
      (match start with | .ok f => [f] | _ => []) ++ (match end_ with | .ok f => [f] | _ => [])) := by
  cases start <;> cases end_ <;> cases h <;> exact ⟨rfl, rfl⟩

/-- an unparsable time filter yields an error and no statement -/
theorem C19_get_bad_filter (d : Dialect) (trial metric : String) (start end_ : Filter) (h : start = .bad ∨ end_ = .bad) :
    get d trial metric start end_ = .error .badTime := by
  unfold get
  rcases h with h | h <;> subst h
  · rfl
  · cases start <;> rfl

/-- C19_delete: a constant statement with the trial name as its only argument -/
theorem C19_delete (d : Dialect) (t1 t2 : String) : (delete d t1).sql = (delete d t2).sql ∧ (delete d t1).args = [t1] := ⟨rfl, rfl⟩

/-- C19_sites_constant: every database call site of pkg/db (regenerated table) passes a statement text that is built from
    string literals and integer counters only — no request string flows into SQL text. -/
theorem C19_sites_constant : Katib.Gen.dbSites.all (fun s => s.textClass != "tainted") = true := by decide

/-- … and the table is not empty: the translator found the call sites (12 on the pinned tree). -/
theorem C19_sites_found : 10 ≤ Katib.Gen.dbSites.length := by decide

theorem dropLast_of_comma {s r : String} (h : s = r ++ ",") : dropLast s = r := by
  rw [h, dropLast, String.toList_append, show ",".toList = [','] from rfl, List.dropLast_concat, String.ofList_toList]

/-! Non-vacuity -/
set_option maxRecDepth 8000 in
example : (register .postgres "t" (some [⟨.ok "T1", some ("acc", "0.5")⟩, ⟨.empty, none⟩, ⟨.ok "T2", some ("x'; DROP TABLE--", "1")⟩])).toOption =
    some ⟨"INSERT INTO observation_logs (trial_name, time, metric_name, value) VALUES ($1, $2, $3, $4),($5, $6, $7, $8)",
         ["t", "T1", "acc", "0.5", "t", "T2", "x'; DROP TABLE--", "1"]⟩ := by
  -- the text is the prefix and the two groups without the last comma: evaluation need not take the string apart
  refine congrArg (fun q => some (Stmt.mk q _)) (dropLast_of_comma ?_)
  decide +kernel
set_option maxRecDepth 8000 in
example : (get .mysql "t" "" .absent (.ok "E")).toOption.map (·.sql) =
    some "SELECT time, metric_name, value FROM observation_logs WHERE trial_name = ? AND time <= ? ORDER BY time" := by decide +kernel

end Katib.DB
