import Katib.Lemmas.ExpPlan
import Katib.Lemmas.ExpSt
/-!
# C03 over whole schedules: Succeeded and Failed are never both true, and Running is not true once a verdict exists

`C03_exclusive_world`: for every list of simulator operations (no hypothesis on the schedule) every Experiment of the
current store satisfies both.  The status a reconcile writes is computed from the (possibly stale) Experiment it read; the
invariant holds for that copy because it holds for every snapshot, and `C03_exclusive` / `C03_running_false` /
`expUpdateStatus_frozen` carry it through `UpdateExperimentStatus`, the restart and the suggestion-failed branch.
-/
namespace Katib.Ctl
open Katib Katib.Exp

def EOk (cs : List ECond) : Prop :=
  ¬ (isSucceeded cs = true ∧ isFailed cs = true) ∧ (isCompleted cs = true → Cond.has cs .running = false)

theorem eok_of_same {a b : List ECond} (h1 : Cond.has b .succeeded = Cond.has a .succeeded) (h2 : Cond.has b .failed = Cond.has a .failed)
    (h3 : Cond.has b .running = Cond.has a .running) (h : EOk a) : EOk b := by
  unfold EOk isCompleted isSucceeded isFailed at *
  rw [h1, h2, h3]; exact h

theorem eok_not_completed {cs : List ECond} (h : isCompleted cs = false) : EOk cs := by
  refine ⟨fun hh => (by rw [(not_completed h).1] at hh; cases hh.1), fun hh => ?_⟩
  rw [h] at hh; cases hh

theorem eok_update (e : ExpO) (st : ExpSt) (ts : List TrialO) (now : Nat) (h : EOk st.conds) :
    EOk (expUpdateStatus e st ts now).conds := by
  cases hc : isCompleted st.conds with
  | true => rw [(expUpdateStatus_frozen e st ts now hc).1]; exact h
  | false =>
    rw [conds_of_update e st ts now hc]
    refine ⟨C03_exclusive _ _ _ _ _ now hc, fun hd => C03_running_false _ _ _ _ _ now hd hc⟩

theorem eok_markFailed {cs : List ECond} {r : String} {now : Nat} (hnc : isCompleted cs = false) : EOk (markFailed cs r now) := by
  obtain ⟨a, b, c, _⟩ := markFailed_spec cs r now
  exact ⟨fun hh => (by rw [b, (not_completed hnc).1] at hh; cases hh.1), fun _ => c⟩

theorem eok_markRestarting {cs : List ECond} {now : Nat} : EOk (markRestarting cs now) := by
  apply eok_not_completed
  unfold isCompleted isSucceeded isFailed markRestarting
  rw [Cond.has_set_other (by decide), Cond.has_set_other (by decide), Cond.has_remove_other (by decide), Cond.has_remove_self,
    Cond.has_remove_self]
  rfl

theorem expPlan_ej (v : World) (k : Key2) (now : Nat) (hv : ∀ e, findExp v k = some e → EOk e.st.conds) :
    (expPlan v k now).All (ExpStJust fun _ st => EOk st.conds) :=
  expPlan_all fun e he c hc => by
    cases hc with
    | status hw _ =>
      exact hw.closed (S := fun st => EOk st.conds) (hv e he) (fun _ => eok_markRestarting)
        (fun st h => eok_of_same (Cond.has_set_other (by decide)) (Cond.has_set_other (by decide))
          (Cond.has_set_other (by decide)) h)
        (fun st h _ => eok_update e st _ now h) (fun st _ hnc => eok_markFailed hnc)
    | _ => trivial

theorem exclusiveSched : Sched (fun _ => True) (fun _ w => ∀ e ∈ w.exps, EOk e.st.conds) (fun _ _ => True) :=
  expStSched (P := fun _ e => EOk e.st.conds) (Q := fun _ _ st => EOk st.conds) (fun _ h => h) (fun _ h => h) id id
    fun vE _ _ _ k hI => expPlan_ej _ k _ fun e he => (hI.snap vE).1 e (assemble_exps .. ▸ findExp_mem he)

/-- **C03_exclusive_world**: over every schedule (no hypothesis), no Experiment is both Succeeded and Failed, and an
    Experiment that carries a verdict is not Running. -/
theorem C03_exclusive_world (es : List ExpInit) (ops : List Op) :
    ∀ e ∈ (run (Sim.init es) ops).cur.exps,
      ¬ (isSucceeded e.st.conds = true ∧ isFailed e.st.conds = true) ∧
      (isCompleted e.st.conds = true → Cond.has e.st.conds .running = false) :=
  (exclusiveSched.run_init es (fun _ _ => trivial) (init_exps (P := fun e => EOk e.st.conds) fun _ _ => eok_not_completed rfl)).cur

end Katib.Ctl
