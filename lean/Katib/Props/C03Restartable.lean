import Katib.Gen.Restartable
import Katib.Model.ExpStatus
/-!
# The model's restartability predicate is the source's

`Katib/Gen/Restartable.lean` is regenerated on every run from `IsCompletedExperimentRestartable`
(pkg/controller.v1beta1/experiment/util/status_util.go): the boolean structure of its condition over the atoms
`IsSucceeded()`, `IsCompletedReason(ExperimentMaxTrialsReachedReason)`, `ResumePolicy == LongRunning / FromVolume / Never`.
The model's `Katib.Exp.restartable` — on which the restart guard, `C03_frozen_verdict_world` and the C15 / C16 models rest — is
that function of the same atoms, for every condition list and policy.
-/
namespace Katib.Gen
open Katib Katib.Exp

/-- the translator met only atoms it knows, in a function body of a shape it knows -/
theorem C03_restartable_source_shape_known :
    restartableUnknownAtoms = [] ∧ (restartableShape = "if-return-true-else-false" ∨ restartableShape = "return-expression") := by
  decide

theorem C03_restartable_is_source (cs : List ECond) (r : Resume) :
    restartable cs r =
      restartableGen (isSucceeded cs) (isFailed cs) (isSucceeded cs && Cond.reasonOf cs .succeeded == some rMaxTrials)
        (r == .longRunning) (r == .fromVolume) (r == .never) false := by
  unfold restartable restartableGen
  cases isSucceeded cs <;> rfl

end Katib.Gen
