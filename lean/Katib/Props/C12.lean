import Katib.Model.Sidecar
/-!
# C12 — Sidecar injection preserves the workload and wires the collector correctly

Theorems about `Katib.Pod.mutate` (model of `SidecarInjector.Mutate`) for every pod, Trial and environment, and about the
owner walk `katibJob`.  Pods whose primary container has no explicit command need an image-registry lookup: out of scope.
-/
namespace Katib.Pod

theorem updFirst_names {n : String} (f : Container → Container)
    (hf : ∀ c, ((f c).name, (f c).image) = (c.name, c.image)) {cs : List Container} :
    (updFirst n f cs).map (fun c => (c.name, c.image)) = cs.map (fun c => (c.name, c.image)) := by
  induction cs with
  | nil => rfl
  | cons c r ih =>
    unfold updFirst
    split
    · exact congrArg (· :: _) (hf c)
    · exact congrArg (_ :: ·) ih

theorem map_names {f : Container → Container} (hf : ∀ c, ((f c).name, (f c).image) = (c.name, c.image))
    {cs : List Container} : (cs.map f).map (fun c => (c.name, c.image)) = cs.map (fun c => (c.name, c.image)) := by
  rw [List.map_map]
  exact List.map_congr_left (fun c _ => hf c)

theorem wrap_name (t : Trial) (c : Container) : (wrap t c).name = c.name ∧ (wrap t c).image = c.image := ⟨rfl, rfl⟩

/-- C12_light: a non-primary pod, and any pod of a push-collector Trial, is admitted with only the Trial labels (plus
    KATIB_TRIAL_NAME where the primary container exists) — also when the primary container is missing. -/
theorem C12_light (pod : PodS) (t : Trial) (e : Env) (h : nonPrimary pod t = true ∨ t.kind = .push) :
    mutate pod t e = .ok (lightPod pod t) := by
  unfold mutate
  rcases h with h | h
  · rw [if_pos h]
  · rw [if_pos h, ite_self]

/-- the light outcome keeps every container's name, image and order, adds no container and no volume -/
theorem C12_light_keeps (pod : PodS) (t : Trial) :
    (lightPod pod t).containers.map (fun c => (c.name, c.image)) = pod.containers.map (fun c => (c.name, c.image)) ∧
    (lightPod pod t).volumes = pod.volumes ∧ (lightPod pod t).sharePNS = pod.sharePNS :=
  ⟨updFirst_names (fun c => { c with env := c.env ++ [envTrialName] }) (fun _ => rfl), rfl, rfl⟩

/-- names, images and order of the containers of a full mutation: the originals, then the collector -/
theorem assemble_names (pod : PodS) (t : Trial) (col : Container) (cp : String) :
    (assemble pod t col cp).containers.map (fun c => (c.name, c.image)) =
      pod.containers.map (fun c => (c.name, c.image)) ++ [(col.name, col.image)] := by
  -- every edit keeps names and images, so both branches of each `if` give the same list
  simp only [assemble, apply_ite (List.map fun c : Container => (c.name, c.image)), updFirst_names (wrap t) (fun _ => rfl),
    updFirst_names, map_names, apply_ite Container.name, apply_ite Container.image, ite_self, implies_true, List.map_append,
    (C12_light_keeps pod t).1, List.map_cons, List.map_nil]

/-- the one successful outcome of `mutate` besides the light one is an `assemble`d pod: what `C12_volume` and `C12_mounts`
    say of `assemble` holds of every full mutation -/
theorem mutate_ok_full {pod : PodS} {t : Trial} {e : Env} {r : PodS} (h : mutate pod t e = .ok r)
    (hprim : nonPrimary pod t = false) (hkind : t.kind ≠ .push) :
    hasContainer pod.containers t.primaryContainer = true ∧ e.experimentExists = true ∧
    ∃ col ep cp, collectorContainer t e = .ok col ∧ e.suggestion = some (ep, cp) ∧ r = assemble pod t col cp := by
  unfold mutate at h
  rw [if_neg (hprim ▸ Bool.false_ne_true), if_neg hkind] at h
  split at h
  · cases h
  · rename_i hhas
    split at h
    · cases h
    · rename_i col hcol
      split at h
      · cases h
      · rename_i hexp
        split at h
        · cases h
        · rename_i ep cp hsug
          cases h
          exact ⟨by simpa using hhas, by simpa using hexp, col, ep, cp, hcol, hsug, rfl⟩

/-- C12_containers_kept + C12_one_collector + C12_share_pns + C12_labels: a full mutation keeps every original container
    (name, image, order), appends exactly one collector container, enables process-namespace sharing and sets the labels;
    it happens only for a pod that contains the primary container. -/
theorem C12_full (pod : PodS) (t : Trial) (e : Env) (r : PodS) (h : mutate pod t e = .ok r)
    (hprim : nonPrimary pod t = false) (hkind : t.kind ≠ .push) :
    ∃ col, collectorContainer t e = .ok col ∧
      r.containers.map (fun c => (c.name, c.image)) = pod.containers.map (fun c => (c.name, c.image)) ++ [(col.name, col.image)] ∧
      r.sharePNS = some true ∧ r.labels = mutateLabels pod.labels t ∧ hasContainer pod.containers t.primaryContainer = true := by
  obtain ⟨hhas, _, col, _, cp, hcol, _, rfl⟩ := mutate_ok_full h hprim hkind
  exact ⟨col, hcol, assemble_names pod t col cp, rfl, rfl, hhas⟩

/-- C12_volume: when the collector reads files the shared metrics volume is added (last) and the pod gains exactly one container. -/
theorem C12_volume (pod : PodS) (t : Trial) (col : Container) (cp : String) (hm : t.mountPath ≠ "") :
    (assemble pod t col cp).volumes.getLast? = some metricsVolume ∧
    (assemble pod t col cp).containers.length = pod.containers.length + 1 := by
  constructor
  · unfold assemble
    simp [hm]
  · have := congrArg List.length (assemble_names pod t col cp)
    simpa using this

theorem mem_updFirst (n : String) (f : Container → Container) (cs : List Container) (c : Container) (h : c ∈ updFirst n f cs) :
    c ∈ cs ∨ ∃ c0 ∈ cs, c = f c0 := by
  induction cs with
  | nil => simp [updFirst] at h
  | cons a r ih =>
    simp only [updFirst] at h
    split at h
    · rcases List.mem_cons.1 h with h | h
      · exact Or.inr ⟨a, List.mem_cons_self, h⟩
      · exact Or.inl (List.mem_cons_of_mem _ h)
    · rcases List.mem_cons.1 h with h | h
      · exact Or.inl (h ▸ List.mem_cons_self)
      · rcases ih h with h | ⟨c0, hc0, e⟩
        · exact Or.inl (List.mem_cons_of_mem _ h)
        · exact Or.inr ⟨c0, List.mem_cons_of_mem _ hc0, e⟩

theorem updFirst_keeps {n : String} {f : Container → Container} {P : Container → Prop} {cs : List Container}
    (hf : ∀ c, P c → P (f c)) (h : ∀ c ∈ cs, P c) : ∀ c ∈ updFirst n f cs, P c := fun c hc => by
  rcases mem_updFirst n f cs c hc with hc | ⟨c0, hc0, rfl⟩
  · exact h c hc
  · exact hf c0 (h c0 hc0)

/-- the metrics volume is mounted at the metrics directory in this container -/
def MountsMetrics (t : Trial) (c : Container) : Prop := (metricsVolume, t.mountDir) ∈ c.mounts
/-- the container mounts the metrics volume somewhere -/
def MountsMetricsAnywhere (c : Container) : Prop := ∃ m ∈ c.mounts, m.1 = metricsVolume

/-- C12_mounts: when the collector reads files, the shared metrics volume is mounted — at the metrics directory — in exactly
    the containers named like the primary container or like the collector container, provided no container mounted a volume
    of that name before. -/
theorem C12_mounts (pod : PodS) (t : Trial) (col : Container) (cp : String) (hm : t.mountPath ≠ "")
    (hfresh : ∀ c ∈ pod.containers ++ [col], ¬ MountsMetricsAnywhere c) :
    ∀ c ∈ (assemble pod t col cp).containers,
      (MountsMetricsAnywhere c ↔ (c.name = col.name ∨ c.name = t.primaryContainer)) ∧
      ((c.name = col.name ∨ c.name = t.primaryContainer) → MountsMetrics t c) := by
  have hsv : suggestionVolume ≠ metricsVolume := by decide
  unfold assemble
  extract_lets cs2 cs3 vols3 cs4 vols4 cs5
  -- up to `cs3`, before the metrics mount is added, no container mounts the metrics volume
  have h2 : ∀ c ∈ cs2, ¬ MountsMetricsAnywhere c := by
    rw [List.forall_mem_append] at hfresh ⊢
    exact ⟨updFirst_keeps (fun _ h => h) hfresh.1, hfresh.2⟩
  have h3 : ∀ c ∈ cs3, ¬ MountsMetricsAnywhere c := by
    unfold cs3
    split
    · exact h2
    · refine updFirst_keeps ?_ h2
      rintro c hc ⟨m, hmem, hmv⟩
      rcases List.mem_append.1 hmem with hmem | hmem
      · exact hc ⟨m, hmem, hmv⟩
      · cases List.mem_singleton.1 hmem
        exact hsv hmv
  -- `cs4` adds it exactly where the name matches
  have h4 : ∀ c ∈ cs4, (MountsMetricsAnywhere c ↔ (c.name = col.name ∨ c.name = t.primaryContainer)) ∧
      ((c.name = col.name ∨ c.name = t.primaryContainer) → MountsMetrics t c) := by
    unfold cs4
    rw [if_neg hm, List.forall_mem_map]
    intro c hc
    have hmem : (metricsVolume, t.mountDir) ∈ c.mounts ++ [(metricsVolume, t.mountDir)] :=
      List.mem_append_right _ (List.mem_singleton_self _)
    by_cases hn : c.name = col.name ∨ c.name = t.primaryContainer
    · rw [if_pos hn]
      exact ⟨⟨fun _ => hn, fun _ => ⟨_, hmem, rfl⟩⟩, fun _ => hmem⟩
    · rw [if_neg hn]
      exact ⟨⟨fun h => absurd h (h3 c hc), fun h => absurd h hn⟩, fun h => absurd h hn⟩
  -- the wrapper changes neither names nor mounts
  show ∀ c ∈ cs5, _
  unfold cs5
  split
  · exact updFirst_keeps (fun _ h => h) h4
  · exact h4

theorem collectorArgs_ok (t : Trial) (e : Env) (args : List String) (h : collectorArgs t e = .ok args) :
    ["-t", t.name, "-m", t.metricNames, "-o-type", t.objType, "-s-db", e.dbAddr] ++
        (if t.mountPath ≠ "" then ["-path", t.mountPath] else []) <+: args ∧
      ∀ rules ep cp, t.rules = some rules → rules ≠ [] → e.suggestion = some (ep, cp) → ["-s-earlystop", ep] <:+ args := by
  unfold collectorArgs at h
  extract_lets base a1 a2 a3 a4 a5 rules at h
  split at h
  · rename_i hempty
    cases h
    refine ⟨⟨_, by simp only [List.append_assoc]; rfl⟩, ?_⟩
    intro rs ep cp hr hne _
    simp only [rules, hr, Option.getD_some, List.isEmpty_iff] at hempty
    exact absurd hempty hne
  · split at h
    · cases h
    · rename_i ep cp hs
      cases h
      refine ⟨⟨_, by simp only [List.append_assoc]; rfl⟩, ?_⟩
      intro _ ep' cp' _ _ hs'
      cases hs.symm.trans hs'
      exact ⟨_, rfl⟩

/-- C12_args: the collector of a built-in kind is configured with the Trial's name, metric names, objective type and the
    DB-manager address first; with stop rules the list ends with the early-stopping endpoint of the Trial's Suggestion. -/
theorem C12_args (t : Trial) (e : Env) (args : List String) (h : collectorArgs t e = .ok args) :
    args.take 8 = ["-t", t.name, "-m", t.metricNames, "-o-type", t.objType, "-s-db", e.dbAddr] ∧
    (∀ rules ep cp, t.rules = some rules → rules ≠ [] → e.suggestion = some (ep, cp) → ["-s-earlystop", ep] <:+ args) := by
  obtain ⟨⟨r, rfl⟩, hs⟩ := collectorArgs_ok t e args h
  exact ⟨rfl, hs⟩

/-- the path flag is present whenever the collector reads files -/
theorem C12_args_path (t : Trial) (e : Env) (args : List String) (h : collectorArgs t e = .ok args) (hm : t.mountPath ≠ "") :
    "-path" ∈ args ∧ t.mountPath ∈ args := by
  obtain ⟨hp, _⟩ := collectorArgs_ok t e args h
  rw [if_pos hm] at hp
  exact ⟨hp.mem (by simp), hp.mem (by simp)⟩

theorem splitShell_spec (all : List String) :
    (splitShell all).1 ++ (splitShell all).2 = all ∨ ((splitShell all).1 = ["sh", "-c"] ∧ (splitShell all).2 = all) := by
  unfold splitShell
  match all with
  | [] => exact Or.inr ⟨rfl, rfl⟩
  | [a] => exact Or.inr ⟨rfl, rfl⟩
  | a0 :: a1 :: rest =>
    simp only []
    split
    · exact Or.inl rfl
    · exact Or.inr ⟨rfl, rfl⟩

/-- C12_command_verbatim: the wrapper keeps the training command's words verbatim and in order inside its single argument,
    followed only by the redirect / early-stopping / completion suffix; a leading `sh -c` / `bash -c` is reused as the
    wrapper's shell instead of being nested. -/
theorem C12_command_verbatim (t : Trial) (c : Container) :
    ∃ words, (wrap t c).args = [" ".intercalate (words ++ wrapExtras t)] ∧
      ((wrap t c).command ++ words = c.command ++ c.args ∨ ((wrap t c).command = ["sh", "-c"] ∧ words = c.command ++ c.args)) ∧
      (wrapExtras t).getLast? = some (completedCommand t.mountDir) := by
  refine ⟨(splitShell (c.command ++ c.args)).2, rfl, splitShell_spec _, ?_⟩
  unfold wrapExtras
  simp

/-- C12_unrelated: a pod that neither is owned by a Trial nor has any owner is not a Trial's pod (admitted unmodified) -/
theorem C12_unrelated (store : List Obj) (fuel : Nat) (o : Obj) (h : o.owners = []) : katibJob store fuel o = none := by
  cases fuel with
  | zero => simp [katibJob]
  | succ n => simp [katibJob, h, katibJob.tryOwners]

/-- a pod directly owned by an object that a Trial owns belongs to the Trial named like that object (job name = trial name) -/
theorem C12_owner_walk (store : List Obj) (fuel : Nat) (pod job : Obj) (hj : job ∈ store)
    (hown : pod.owners = [(job.kind, "batch/v1", job.name)]) (hjob : job.owners = [(trialKind, trialAPIVersion, "t")])
    (huniq : store.find? (fun x => x.kind = job.kind ∧ x.name = job.name) = some job) (hk : job.kind ≠ trialKind) :
    katibJob store (fuel + 2) pod = some job.name := by
  have _ := hj
  have huniq' : store.find? (fun x => decide (x.kind = job.kind) && decide (x.name = job.name)) = some job := by simpa using huniq
  simp [katibJob, hown, hk, katibJob.tryOwners, huniq', hjob]

/-! Non-vacuity: a StdOut trial, pod with one container `main` running `python train.py` -/
example :
    let t : Trial := { name := "t1", labels := [("katib.kubeflow.org/experiment", "e")], primaryPodLabels := none, primaryContainer := "main", kind := .stdOut,
                       mountPath := "/var/log/katib/metrics.log", mountIsFile := true, mountDir := "/var/log/katib", filters := [], fileFormat := none,
                       metricNames := "acc", objType := "maximize", rules := none, customCollector := none }
    let e : Env := { dbAddr := "db:6789", collectorImage := some "img", waitAll := none, experimentExists := true, suggestion := some ("e-random.ns:6788", ""),
                     pvcName := "e-random", checkpointSubPath := "e/t1" }
    let pod : PodS := { labels := [], containers := [⟨"main", "img", ["python", "train.py"], [], [], []⟩], volumes := [], sharePNS := none }
    (match mutate pod t e with
     | .ok r => r.containers.map (·.name) == ["main", "metrics-logger-and-collector"] && r.volumes == ["metrics-volume"] &&
                (r.containers.head?.map (·.command)) == some ["sh", "-c"]
     | .error _ => false) = true := by decide

end Katib.Pod
