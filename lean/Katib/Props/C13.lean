import Katib.Model.LogParse
/-!
# C13 — Log parsing reports exactly the tracked metrics, in order, never crashing  (partial)

Theorems about `Katib.Log.parseText / parseJson`.  Partial: regexp, JSON decoding and time parsing are oracles; the
epoch clause of the property is *false* of the code for numeric timestamps with 1–8 fractional digits
(`C13_epoch_order_counterexample`; pinned by an existing upstream test, hence a known finding), and holds for 0 or 9
digits (`C13_epoch_partial`).
-/
namespace Katib.Log

theorem firstTracked_spec (metrics : List String) (ts : String) (m : Match) :
    firstTracked metrics ts m = if m.name ∈ metrics then [{ ts := ts, name := m.name, value := m.value }] else [] := by
  induction metrics with
  | nil => simp [firstTracked]
  | cons x xs ih =>
    simp only [firstTracked, List.mem_cons]
    by_cases h : m.name = x
    · simp [h]
    · simp [h, ih]

/-- C13_text: exactly the occurrences of tracked names, in line order → filter order → match order, each once, with
    the matched value and the line's timestamp (first token when it is RFC3339, else the zero time). -/
theorem C13_text (lines : List TextLine) (metrics : List String) :
    lines.flatMap (lineRecs metrics) =
    lines.flatMap (fun l =>
      if l.isMetricLine then
        l.found.flatMap (fun ms => ms.flatMap (fun m =>
          if 3 ≤ m.groups ∧ m.name ∈ metrics then [{ ts := (l.firstToken.getD zeroTime), name := m.name, value := m.value }] else []))
      else []) := by
  congr 1
  funext l
  unfold lineRecs
  cases l.isMetricLine with
  | false => rfl
  | true =>
    simp only [Bool.not_true, Bool.false_eq_true, if_false, if_true, firstTracked_spec]
    congr 1
    funext ms
    congr 1
    funext m
    by_cases hg : m.groups < 3
    · rw [if_pos hg, if_neg fun h => Nat.not_le.2 hg h.1]
    · simp only [if_neg hg, Nat.not_lt.1 hg, true_and]
      cases l.firstToken <;> rfl

/-- every reported record names a tracked metric -/
theorem C13_only_tracked (lines : List TextLine) (metrics : List String) :
    ∀ r ∈ lines.flatMap (lineRecs metrics), r.name ∈ metrics := by
  intro r hr
  simp only [C13_text, List.mem_flatMap, List.mem_ite_nil_right, List.mem_singleton] at hr
  obtain ⟨l, _, _, ms, _, m, _, ⟨_, hm⟩, rfl⟩ := hr
  exact hm

/-- C13_fallback: if the objective metric (first tracked name) never occurs, a single `unavailable` record with the zero
    time is reported for it; otherwise the records are reported as found. -/
theorem C13_fallback (recs : List Rec) (obj : String) (rest : List String) :
    finish recs (obj :: rest) =
      if recs.any (fun r => r.name = obj) then some recs else some [{ ts := zeroTime, name := obj, value := unavailable }] := rfl

/-- C13_total: with at least one tracked metric the parser always answers (the only crash outcome of the model is the
    empty metric list, which the collector's `main` never passes: the objective metric is always first). -/
theorem C13_total (lines : List TextLine) (metrics : List String) (h : metrics ≠ []) : (parseText lines metrics).isSome = true := by
  unfold parseText finish
  cases metrics with
  | nil => exact absurd rfl h
  | cons a r => simp only []; split <;> rfl

theorem C13_total_json (lines : List JLine) (metrics : List String) (h : metrics ≠ []) :
    parseJson lines metrics = none ∨ ∃ r, parseJson lines metrics = some (some r) := by
  unfold parseJson
  cases parseJson.go metrics lines with
  | none => exact Or.inl rfl
  | some recs =>
    right
    cases metrics with
    | nil => exact absurd rfl h
    | cons a r => simp only []; split <;> exact ⟨_, rfl⟩

/-- C13_json: a JSON line contributes, for each tracked metric in tracking order whose value is a JSON string, one record. -/
theorem C13_json_line (metrics : List String) (ts : JTs) (vals : List (Option String)) :
    (jsonLineRecs metrics ts vals).map (fun r => (r.name, r.value)) =
    (metrics.zip vals).filterMap (fun p => p.2.map (fun v => (p.1, v))) := by
  rw [jsonLineRecs, List.map_filterMap]
  congr 1
  funext p
  cases p.2 <;> rfl

/-- a line that is not a JSON object makes the whole collection fail (no partial report) -/
theorem C13_json_invalid (pre post : List JLine) (metrics : List String) :
    parseJson (pre ++ .invalid :: post) metrics = none := by
  unfold parseJson
  suffices parseJson.go metrics (pre ++ .invalid :: post) = none by rw [this]
  induction pre with
  | nil => rfl
  | cons l r ih =>
    cases l with
    | empty => simpa [parseJson.go] using ih
    | invalid => rfl
    | obj ts vals => simp [parseJson.go, ih]

/-- the instant a decimal epoch string `i.f` denotes, in nanoseconds (fraction padded / cut to 9 digits); `i ≥ 0` -/
def specNanos (intPart : Nat) (fracDigits : List Nat) : Int :=
  let padded := (fracDigits ++ List.replicate 9 0).take 9
  (intPart : Int) * 1000000000 + (padded.foldl (fun acc d => acc * 10 + d) 0 : Nat)

def digitsVal (ds : List Nat) : Nat := ds.foldl (fun acc d => acc * 10 + d) 0

/-- C13_epoch_partial: when the fraction has exactly nine digits (or there is none) the conversion denotes the same
    instant — and so preserves order. -/
theorem C13_epoch_partial (sec : Nat) (ds : List Nat) (h : ds.length = 9 ∨ ds = []) :
    unixNanos sec (digitsVal ds) = specNanos sec ds := by
  unfold unixNanos specNanos digitsVal
  rcases h with h | h
  · have : (ds ++ List.replicate 9 0).take 9 = ds := by
      rw [List.take_append_of_le_length (by omega)]
      exact List.take_of_length_le (by omega)
    simp only [this]
  · subst h; simp [List.replicate]

/-- C13_epoch_order_counterexample (known finding): 1.5 s is converted to 1 s + 5 ns and 1.25 s to 1 s + 25 ns, so the
    later instant sorts first. -/
theorem C13_epoch_order_counterexample :
    epochNanos (some 1) (some (some 5)) = some 1000000005 ∧ epochNanos (some 1) (some (some 25)) = some 1000000025 ∧
    specNanos 1 [5] = 1500000000 ∧ specNanos 1 [2, 5] = 1250000000 := by decide

/-! Non-vacuity -/
example :
    parseText [⟨true, some "2024-01-01T00:00:00Z", [[⟨3, "acc", "0.5"⟩, ⟨3, "other", "1"⟩, ⟨2, "acc", "9"⟩]]⟩,
               ⟨false, none, [[⟨3, "acc", "0.7"⟩]]⟩, ⟨true, none, [[⟨3, "loss", "2"⟩], [⟨3, "acc", "0.6"⟩]]⟩] ["acc", "loss"]
    = some [⟨"2024-01-01T00:00:00Z", "acc", "0.5"⟩, ⟨zeroTime, "loss", "2"⟩, ⟨zeroTime, "acc", "0.6"⟩] := by decide

end Katib.Log
