import Katib.Lemmas.ExpSt
import Katib.Props.C03Frozen
import Katib.Props.C04Counters
import Katib.Props.C16Succeeded
import Katib.Props.C16World
/-!
# C04 on schedules for the resume policies Never and LongRunning: no assumption about the Suggestion is left

`C04_quiescent_verdict_on_schedules_full` assumes that the Suggestion is not Succeeded.  For an Experiment created with
resume policy LongRunning the Suggestion is never Succeeded (`C16_longrunning_service_kept`).  Under Never a Succeeded
Suggestion means that some snapshot showed the Experiment with a verdict (`C16_succeeded_only_after_verdict`); a completed
Experiment is Created (`XI` below), no verdict is restartable under Never, so that verdict is frozen
(`C03_frozen_verdict_world`) and the Experiment is completed now — which is what was to be shown.  What remains are the
hypotheses of the property itself: nothing writes any more, jobs have finished, metrics are in, the Deployment is ready.
-/
namespace Katib.Ctl
open Katib Katib.Exp

def Cr (cs : List ECond) : Prop := Cond.has cs .created = true

theorem cr_markSucceeded {cs : List ECond} {r : String} {now : Nat} (h : Cr cs) : Cr (markSucceeded cs r now) :=
  (has_markSucceeded_other (by decide) (by decide)).trans h

theorem cr_markFailed {cs : List ECond} {r : String} {now : Nat} (h : Cr cs) : Cr (markFailed cs r now) :=
  (has_markFailed_other (by decide) (by decide)).trans h

theorem cr_markRunning {cs : List ECond} {now : Nat} (h : Cr cs) : Cr (markRunning cs now) :=
  (has_markRunning_other (by decide)).trans h

theorem cr_markRestarting {cs : List ECond} (now : Nat) (h : Cr cs) : Cr (markRestarting cs now) := by
  unfold Cr markRestarting
  rw [Cond.has_set_other (by decide), Cond.has_remove_other (by decide), Cond.has_remove_other (by decide)]; exact h

theorem cr_updateCondition (b : Budget) (c : Counts) (s : Status) (g d : Bool) (now : Nat) (h : Cr s.conds) :
    Cr (updateCondition b c s g d now).conds := by
  rw [updateCondition_eq]
  cases verdict b c g d with
  | succeeded r => exact cr_markSucceeded h
  | failed => exact cr_markFailed h
  | running => exact cr_markRunning h

theorem cr_expUpdateStatus (e : ExpO) (st : ExpSt) (ts : List TrialO) (now : Nat) (h : Cr st.conds) :
    Cr (expUpdateStatus e st ts now).conds := by
  cases hc : isCompleted st.conds with
  | true => rw [(expUpdateStatus_frozen e st ts now hc).1]; exact h
  | false => rw [conds_of_update e st ts now hc]; exact cr_updateCondition _ _ _ _ _ _ h

theorem cr_expRefresh {v : World} {e : ExpO} {st : ExpSt} {now : Nat} (h : Cr st.conds) : Cr (expRefresh v e st now).conds := by
  rcases expRefresh_cases v e st now with ⟨_, hr⟩ | ⟨_, hr⟩ <;> rw [hr]
  · exact h
  · exact cr_expUpdateStatus e st _ now h

/-- every status the experiment controller writes carries Created -/
theorem expPlan_crjust (v : World) (k : Key2) (now : Nat) : (expPlan v k now).All (ExpStJust fun _ st => Cr st.conds) :=
  expPlan_all fun e _ c hc => by
    cases hc with
    | status hw _ =>
      cases hw with
      | created _ _ => exact Cond.has_set_self
      | refreshed _ hcr => exact cr_expRefresh hcr
      | sugFailed ha _ _ => exact cr_markFailed (cr_expRefresh ha.created)
    | _ => trivial

/-- the Experiment `k` carries resume policy `r` (when one is named), and a completed Experiment is Created -/
def XI (k : Key2) (r : Option Resume) (e : ExpO) : Prop :=
  (e.key = k → ∀ r', r = some r' → e.cfg.resume = r') ∧ (isCompleted e.st.conds = true → Cr e.st.conds)

theorem createdSched (k : Key2) (r : Option Resume) : Sched (fun _ => True) (fun _ w => ∀ e ∈ w.exps, XI k r e) (fun _ _ => True) :=
  expStSched (P := fun _ => XI k r) (Q := fun _ _ st => Cr st.conds) (fun _ h => h) (fun h hQ => ⟨h.1, fun _ => hQ⟩) id id
    fun _ _ _ _ k' _ => expPlan_crjust _ k' _

theorem created_run (k : Key2) (r : Option Resume) (es : List ExpInit) (ops : List Op)
    (hres : ∀ ei ∈ es, ei.key = k → ∀ r', r = some r' → ei.cfg.resume = r') :
    SInv (fun _ w => ∀ e ∈ w.exps, XI k r e) (fun _ _ => True) (run (Sim.init es) ops) :=
  (createdSched k r).run_init es (fun _ _ => trivial) (init_exps fun ei hei => ⟨hres ei hei, nofun⟩)

/-- **C03_completed_is_created_world**: over every schedule (no hypothesis) an Experiment that carries a verdict is Created. -/
theorem C03_completed_is_created_world (es : List ExpInit) (ops : List Op) :
    let s := run (Sim.init es) ops
    (∀ e ∈ s.cur.exps, isCompleted e.st.conds = true → Cond.has e.st.conds .created = true) ∧
    (∀ (i : Nat) (h : World), s.hist[i]? = some h → ∀ e ∈ h.exps, isCompleted e.st.conds = true → Cond.has e.st.conds .created = true) := by
  intro s
  have hX := created_run { ns := "", name := "" } none es ops (fun _ _ _ _ hr' => nomatch hr')
  exact ⟨fun e he => (hX.cur e he).2, fun i h hh e he => ((hX.past i h hh).1 e he).2⟩

/-- **C03_frozen_verdict_world_created**: `C03_frozen_verdict_world` without its Created premise. -/
theorem C03_frozen_verdict_world_created (k : Key2) (es : List ExpInit) (ops : List Op) :
    let s := run (Sim.init es) ops
    ∀ (i : Nat) (h : World) (eh : ExpO), s.hist[i]? = some h → findExp h k = some eh →
      isCompleted eh.st.conds = true → restartable eh.st.conds eh.cfg.resume = false →
      ∃ ec, findExp s.cur k = some ec ∧ ec.st.conds = eh.st.conds ∧ ec.st.completion = eh.st.completion ∧ ec.cfg = eh.cfg := by
  intro s i h eh hh he h2 h3
  exact C03_frozen_verdict_world k es ops i h eh hh he
    ((C03_completed_is_created_world es ops).2 i h hh eh (findExp_mem he) h2) h2 h3

/-- **C04_quiescent_verdict_on_schedules_resume**: for an Experiment created with resume policy Never or LongRunning and a
    `maxTrialCount ≥ 1` that is not edited, on every schedule without Trial deletions: if in the reached store no controller
    writes any more, no job is running, every successful job's metrics are in, the algorithm Deployment (if any) is ready and no
    Trial is early-stopped without observation, then the Experiment carries a verdict.  Besides these, only `parallelTrialCount ≥ 1` and that the Experiment itself is not under
    deletion are assumed about the store. -/
theorem C04_quiescent_verdict_on_schedules_resume (k : Key2) (m : Int) (hm1 : 1 ≤ m) (r : Resume) (hr : r ≠ .fromVolume)
    (es : List ExpInit) (ops : List Op)
    (hinit : ∀ e ∈ es, e.key = k → e.maxT = some m) (hres : ∀ e ∈ es, e.key = k → e.cfg.resume = r)
    (hops : ∀ op ∈ ops, ∀ n, op ≠ .editMax k n) (hopd : ∀ op ∈ ops, ∀ k', op ≠ .userDelete k')
    (now : Nat) (e : ExpO) :
    let w := (run (Sim.init es) ops).cur
    findExp w k = some e → 1 ≤ e.par → e.deleted = false →
    (expPlan w k now).noWrites → (sugPlan w k {} now).noWrites → (∀ t ∈ trialsOf w k, (trialPlan w t.key now).noWrites) →
    (∀ t ∈ trialsOf w k, ∀ j, findJob w t.key = some j → j.state ≠ .running) →
    (∀ t ∈ trialsOf w k, ∀ j, findJob w t.key = some j → j.state = .succeeded →
      (t.push = false → (dbOf w t.key.name).isEmpty = false) ∧
      ((dbOf w t.key.name).isEmpty = false → (Metrics.getMetrics (dbOf w t.key.name) [objMetric]).isSome = true)) →
    (∀ d, findDeploy w (infraKey k) = some d → d.ready = true) →
    (∀ t ∈ trialsOf w k, (!obsAvailable t.st && tHas t .earlyStopped) = false) →
    isCompleted e.st.conds = true := by
  intro w he hpar hdel qE qS qT envJ envM envD nw
  have full := C04_quiescent_verdict_on_schedules_full k m hm1 es ops hinit hops hopd now e he hpar hdel qE qS qT envJ envM envD nw
  -- either the Suggestion is not Succeeded (then the `_full` theorem applies) or the Experiment's verdict is frozen
  cases hsg : findSug w k with
  | none => exact full (fun s hs => nomatch hsg.symm.trans hs)
  | some sg =>
    cases hsucc : sHas sg .succeeded with
    | false => exact full (fun s hs => by cases hsg.symm.trans hs; exact hsucc)
    | true =>
      cases r with
      | fromVolume => exact absurd rfl hr
      | longRunning =>
        rw [((C16_longrunning_service_kept k es ops hres).1 sg hsg).2] at hsucc
        cases hsucc
      | never =>
        obtain ⟨i, h, eh, hh, heh, hcompl⟩ := C16_succeeded_only_after_verdict k es ops sg hsg hsucc
        obtain ⟨hpol, hcr⟩ := ((created_run k (some .never) es ops (fun ei hei hk r' hr' => by cases hr'; exact hres ei hei hk)).past
          i h hh).1 eh (findExp_mem heh)
        have hnr : restartable eh.st.conds eh.cfg.resume = false := by
          rw [hpol (findExp_key heh) _ rfl]
          unfold restartable
          simp
        obtain ⟨ec, hec, hconds, _, _⟩ := C03_frozen_verdict_world k es ops i h eh hh heh (hcr hcompl) hcompl hnr
        cases hec.symm.trans he
        rw [hconds]
        exact hcompl

end Katib.Ctl
