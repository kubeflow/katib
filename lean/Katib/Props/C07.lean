import Katib.Lemmas.TrialPlan
/-!
# C07 — Trial run object: one per trial, not recreated on an up-to-date view (`C07_recreate_counterexample` under lag),
# cleaned up per retain

Statements about `Katib.Ctl.trialPlan` (model of `ReconcileTrial.Reconcile`).  `Prog.All P` = `P` holds of every
call on every path of the reconcile's decision tree, i.e. whatever write faults and abort point the environment
chooses; `v` is an arbitrary view (any lag).
-/
namespace Katib.Ctl
open Katib

/-- what the model allows a trial reconcile to do to run objects -/
def JobGuard (v : World) (k : Key2) : Call → Prop
  | .jobCreate k' => k' = k ∧ findJob v k = none ∧ ∃ t, findTrial v k = some t ∧ tCompleted t = false
  | .jobDelete k' => k' = k ∧ (findJob v k).isSome = true ∧ ∃ t, findTrial v k = some t ∧ tCompleted t = true ∧ t.retain = false
  | _ => True

/-- C07_run_object_guard: a run object is created only under the Trial's own name, only when the controller sees none,
    and never for a completed Trial; it is deleted only for a completed Trial with retain = false. -/
theorem C07_run_object_guard (v : World) (k : Key2) (now : Nat) : (trialPlan v k now).All (JobGuard v k) :=
  trialPlan_all fun _ ht _ hc => by
    have hk := findTrial_key ht
    subst hk
    cases hc with
    | jobCreate _ hj hc => exact ⟨rfl, hj, _, ht, hc⟩
    | jobDelete _ hj hc hr => exact ⟨rfl, by rw [hj]; rfl, _, ht, hc, hr⟩
    | _ => trivial

def isJobCreate : Call → Bool
  | .jobCreate _ => true
  | _ => false

/-- C07_at_most_one_create: on no path does one reconcile create two run objects. -/
theorem C07_at_most_one_create (v : World) (k : Key2) (now : Nat) : (trialPlan v k now).maxOnPath isJobCreate ≤ 1 := by
  cases ht : findTrial v k with
  | none => rw [trialPlan_none now ht]; exact Nat.zero_le 1
  | some t =>
    -- the one create is followed by `trialAfterJob`, which creates nothing; no other branch creates
    have aft : ∀ s, (trialAfterJob v t s now).All (fun c => isJobCreate c = false) := fun s =>
      all_trialAfterJob (fun _ _ => rfl) (fun _ _ _ _ => rfl) (fun _ _ _ => rfl)
    have zero : ∀ {p : Prog}, p.All (fun c => isJobCreate c = false) → p.maxOnPath isJobCreate ≤ 1 := fun h => by
      rw [Prog.maxOnPath_zero_of_all h]; exact Nat.zero_le 1
    rw [trialPlan_eq now ht]
    split
    · exact zero ⟨rfl, trivial, trivial⟩
    · split
      · exact zero ⟨rfl, ⟨rfl, trivial, trivial⟩, trivial⟩
      · split
        · exact zero (all_trialFinish.2 fun _ => rfl)
        · unfold trialReconcileJob
          split
          · split
            · exact zero all_trialFinish_self
            · simp only [Prog.maxOnPath, Prog.maxOnPath_zero_of_all (aft _)]
              exact Nat.le_refl 1
          · split
            · exact zero ⟨rfl, trivial, trivial⟩
            · exact zero (aft _)

/-- C07_db_before_finalizer: for a deleted Trial that still holds the finalizer, the reconcile is exactly
    "delete the observation logs, and only if that succeeded release the finalizer"; a DB error keeps the finalizer. -/
theorem C07_db_before_finalizer (v : World) (k : Key2) (now : Nat) (t : TrialO)
    (ht : findTrial v k = some t) (hd : t.deleted = true) (hf : t.fin = true) :
    trialPlan v k now =
      .step (.dbDelete k.name) (.step (.trialUpdateFin k t.rv false) (.done .requeue) (.done .err)) (.done .err) := by
  rw [trialPlan_eq now ht, hd, hf]
  rfl

def FinGuard (v : World) (k : Key2) : Call → Prop
  | .trialUpdateFin _ _ false => ∃ t, findTrial v k = some t ∧ t.deleted = true ∧ t.fin = true
  | _ => True

/-- the finalizer is released nowhere else -/
theorem C07_finalizer_release_only_after_db (v : World) (k : Key2) (now : Nat) :
    (trialPlan v k now).All (FinGuard v k) :=
  trialPlan_all fun _ ht _ hc => by
    cases hc with
    | releaseFinalizer hd hf => exact ⟨_, ht, hd, hf⟩
    | _ => trivial

/-! Non-vacuity: a view with a created, unfinished trial and no run object makes the reconcile create it. -/
example :
    let t : TrialO := { key := ⟨"ns", "t1"⟩, exp := "e", fin := true, retain := false, push := false, objType := .maximize,
                        st := { conds := [⟨.created, true, rTrialCreated, 0⟩] } }
    ((trialPlan { trials := [t] } ⟨"ns", "t1"⟩ 5).calls.head? matches some (.jobCreate ⟨"ns", "t1"⟩)) := by decide

end Katib.Ctl
