import Katib.Lemmas.Metrics
/-!
# C11 — Trial observation = per-metric min / max / latest of the reported log

Theorems about `Katib.Metrics.getMetrics` (model of `getMetrics` in trial_controller_util.go).
`key`/`ts` are the ParseFloat / time.Parse oracles carried by each entry (NaN/Inf excluded: `key` is
then not order-isomorphic and the harness never generates them).
-/
namespace Katib.Metrics

/-- the loop over the map is, per distinct named metric, the independent fold over the entries of that metric, started from
    the all-`unavailable` record -/
theorem getMetrics_eq (es : List Entry) (s : List String) :
    getMetrics es s = optMap (fun n => runOne (initMetric n) (own n es)) s.eraseDups := by
  rw [getMetrics, run_eq_optMap, initMetrics, optMap_map]
  rfl

/-- C11_names: exactly one summary per distinct named metric, in strategy order; unnamed metrics ignored -/
theorem C11_names {es : List Entry} {s : List String} {ms : List Metric}
    (h : getMetrics es s = some ms) : ms.map (·.name) = s.eraseDups := by
  rw [getMetrics_eq] at h
  rw [optMap_map_fst id (·.name) (fun _ _ hr => runOne_name hr) h, List.map_id]

/-- the error return happens exactly when an entry of a *named* metric has an unparsable timestamp -/
theorem C11_error_iff (es : List Entry) (s : List String) :
    getMetrics es s = none ↔ ∃ e ∈ es, e.metric ∈ s ∧ e.ts = none := by
  simp only [getMetrics_eq, optMap_none_iff, runOne_none_iff, List.mem_eraseDups, own, List.mem_filter, decide_eq_true_eq]
  constructor
  · rintro ⟨n, hn, e, ⟨he, rfl⟩, hts⟩
    exact ⟨e, he, hn, hts⟩
  · rintro ⟨e, he, hn, hts⟩
    exact ⟨e.metric, hn, e, ⟨he, rfl⟩, hts⟩

/-- what a result record says, in terms of the metric's own entries `l` (in log order) -/
structure Summary (l : List Entry) (r : Metric) : Prop where
  /-- no numeric value reported ⇒ min and max are `unavailable` -/
  unreported_minmax : (∀ e ∈ l, e.key = none) → r.min = unavailable ∧ r.max = unavailable
  /-- min is the text of the first entry with the smallest key; nothing reported is smaller -/
  min : ∀ e ∈ l, e.key ≠ none → ∃ k, FirstExt (· < ·) l r.min k ∧ ∀ e' ∈ l, ∀ k', e'.key = some k' → k ≤ k'
  /-- max is the text of the first entry with the largest key; nothing reported is larger -/
  max : ∀ e ∈ l, e.key ≠ none → ∃ k, FirstExt (fun a b => b < a) l r.max k ∧ ∀ e' ∈ l, ∀ k', e'.key = some k' → k' ≤ k
  /-- never reported ⇒ latest is `unavailable` -/
  unreported_latest : l = [] → r.latest = unavailable
  /-- latest is the text of the last entry among those with the greatest timestamp -/
  latest : l ≠ [] → ∃ t, LastLatest l r.latest t ∧ ∀ e' ∈ l, ∀ t', e'.ts = some t' → t' ≤ t

theorem summary_of_runOne {n : String} {l : List Entry} {r : Metric}
    (h : runOne (initMetric n) l = some r) : Summary l r := by
  obtain ⟨⟨hmin, hmax⟩, hts⟩ := inv_runOne h (mmInv_init n) (tsInv_init n)
  rw [List.nil_append] at hmin hmax hts
  constructor
  · exact fun hnone => ⟨hmin.of_unkeyed hnone, hmax.of_unkeyed hnone⟩
  · intro e he hk
    obtain ⟨k, hk⟩ := hmin.of_keyed he hk
    exact ⟨k, hk, hk.all_ge⟩
  · intro e he hk
    obtain ⟨k, hk⟩ := hmax.of_keyed he hk
    exact ⟨k, hk, hk.all_le⟩
  · intro hl
    cases ht : r.lastTs with
    | none => exact (hts.none_ts ht).2
    | some t =>
      obtain ⟨pre, e0, post, hp, _⟩ := hts.some_ts t ht
      simp [hl] at hp
  · intro hl
    cases ht : r.lastTs with
    | none => exact absurd (hts.none_ts ht).1 hl
    | some t => exact ⟨t, hts.some_ts t ht, (hts.some_ts t ht).all_le⟩

/-- C11_min / C11_max / C11_latest / C11_unreported: every record of the result summarises exactly the
    entries of its own metric. -/
theorem C11_summary {es : List Entry} {s : List String} {ms : List Metric}
    (h : getMetrics es s = some ms) : ∀ r ∈ ms, Summary (own r.name es) r := by
  intro r hr
  rw [getMetrics_eq] at h
  obtain ⟨n, _, hn⟩ := (optMap_some_mem h r).1 hr
  rw [show r.name = n from runOne_name hn]
  exact summary_of_runOne hn

/-- the result depends only on the sub-logs of the named metrics -/
theorem getMetrics_congr (l₁ l₂ : List Entry) (s : List String) (h : ∀ n ∈ s, own n l₁ = own n l₂) :
    getMetrics l₁ s = getMetrics l₂ s := by
  rw [getMetrics_eq, getMetrics_eq]
  exact optMap_congr fun n hn => by rw [h n (List.mem_eraseDups.1 hn)]

/-- C11_interleaving: the result depends only on each metric's own sub-log (any interleaving of the
    per-metric sequences gives the same observation, error included). -/
theorem C11_interleaving (l₁ l₂ : List Entry) (s : List String)
    (h : ∀ n, own n l₁ = own n l₂) : getMetrics l₁ s = getMetrics l₂ s :=
  getMetrics_congr l₁ l₂ s fun n _ => h n

/-- entries of metrics that are not named in the strategies are ignored altogether -/
theorem C11_unnamed_ignored (es : List Entry) (s : List String) :
    getMetrics es s = getMetrics (es.filter (fun e => e.metric ∈ s)) s := by
  refine getMetrics_congr _ _ s fun n hn => ?_
  rw [own, own, List.filter_filter]
  refine List.filter_congr fun e _ => ?_
  by_cases h : e.metric = n
  · simp [h, hn]
  · simp [h]

/-! Non-vacuity: a concrete log meets the hypotheses and produces the expected summary. -/
example :
    getMetrics
      [⟨"acc", "0.5", some 5, some 10⟩, ⟨"loss", "x", none, some 11⟩, ⟨"acc", "0.7", some 7, some 9⟩,
       ⟨"acc", "0.50", some 5, some 10⟩, ⟨"other", "1", some 1, none⟩]
      ["acc", "loss", "acc", "f1"]
    = some [⟨"acc", "0.5", "0.7", "0.50", some 5, some 7, some 10, some 5⟩,
            ⟨"loss", "unavailable", "unavailable", "x", none, none, some 11, none⟩,
            ⟨"f1", "unavailable", "unavailable", "unavailable", none, none, none, none⟩] := by decide

end Katib.Metrics
