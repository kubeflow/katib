import Katib.Lemmas.ExpPlan
import Katib.Lemmas.SugPlan
import Katib.Lemmas.TrialPlan
/-!
# C04 — Experiments cannot wedge: quiescence implies a verdict; no hot loop  (partial)

Proved here, for every view / fault mask / abort point: no reconcile ever issues a status write that would leave the
status as it read it (`C04_no_noop_status_write_*`), so in a state that no reconcile changes no status write is
attempted at all — the "no hot loop" half.  The liveness half (`quiescent ⇒ verdict`) is *false* of the code for
early-stopped trials whose objective value never becomes available: `C04_wedge_counterexample` is a machine-checked
witness (the known finding C04-early-stopped-without-observation); for the other configurations it is
`C04_quiescent_verdict_partial` (Props/C04Quiescent.lean), and the correspondence runs probe it at observed quiescence.
-/
namespace Katib.Ctl
open Katib Katib.Exp

/-- C04_no_noop_status_write_exp: an Experiment status write always changes the status the reconcile read. -/
theorem C04_no_noop_status_write_exp (v : World) (k : Key2) (now : Nat) (e : ExpO) (he : findExp v k = some e) :
    (expPlan v k now).All (fun c => match c with | .expStatus _ _ st' => st' ≠ e.st | _ => True) := by
  apply (expPlan_guard v k now e he).mono
  intro c hc
  cases c <;> try trivial
  exact hc.2.2

theorem noop_trialFinish (t : TrialO) (st : TrialSt) :
    (trialFinish t st).All (fun c => match c with | .trialStatus _ _ st' => st' ≠ t.st | _ => True) :=
  all_trialFinish.2 id

/-- the same for Suggestion status writes on the success path (`updateStatus` compares with the object read) -/
theorem C04_no_noop_status_write_sug (s : SugO) (st : SugSt) :
    (sugFinish s st).All (fun c => match c with | .sugStatus _ _ st' => st' ≠ s.st | _ => True) :=
  all_sugFinish.2 id

/-- … and on the error path only changed conditions are persisted -/
theorem C04_no_noop_condition_write_sug (s : SugO) (st : SugSt) :
    (sugErr s st).All (fun c => match c with | .sugStatus _ _ st' => st'.conds ≠ s.st.conds | _ => True) :=
  all_sugErr.2 id

/-- `C04_wedge_counterexample` (known finding): maxTrialCount 2, parallel 1, early stopping, one early-stopped trial
    whose observation holds no objective value (also marked metrics-unavailable), job finished, deployment ready,
    suggestion running with requests = count = 1.  No reconcile of any of the three controllers issues a single write
    (the trial reconcile reads the metrics), and the Experiment has no verdict: the state is quiescent and wedged. -/
def wedgeWorld : World :=
  let k : Key2 := ⟨"ns", "exp"⟩
  let t : TrialO :=
    { key := ⟨"ns", "exp-t1"⟩, exp := "exp", fin := true, retain := true, push := false, objType := .maximize,
      st := { conds := [⟨.created, true, rTrialCreated, 1⟩, ⟨.earlyStopped, true, rTrialES, 2⟩, ⟨.running, false, rTrialRunning, 3⟩,
                        ⟨.metricsUnavailable, true, rTrialMU, 3⟩],
              completion := some 3, started := true,
              obs := (Metrics.getMetrics [{ metric := "acc", text := "unavailable", key := none, ts := some 2 }] ["acc"]).map
                       (fun ms => ms.map (fun m => { m with lastTs := none })) } }
  { exps := [{ key := k, fin := true, par := 1, maxT := some 2, maxF := none,
               cfg := { goal := none, objType := .maximize, resume := .longRunning, es := true, retain := true, push := false, labels := false },
               st := { conds := [⟨.created, true, rCreated, 1⟩, ⟨.running, true, rRunning, 2⟩], started := true,
                       lists := { earlyStopped := ["exp-t1"] }, trials := 1, counts := [0, 0, 0, 1, 0, 0, 0] } }],
    trials := [t],
    sugs := [{ key := k, requests := 1, resume := .longRunning, es := true,
               st := { conds := [⟨.created, true, rSugCreated, 1⟩, ⟨.deploymentReady, true, rSugDeployReady, 2⟩, ⟨.running, true, rSugRunning, 2⟩],
                       names := ["exp-t1"], count := 1, started := true } }],
    jobs := [{ key := ⟨"ns", "exp-t1"⟩, state := .succeeded }],
    deploys := [{ key := ⟨"ns", "exp-random"⟩, ready := true }],
    svcs := [⟨"ns", "exp-random"⟩], sas := [⟨"ns", "exp-random"⟩], roles := [⟨"ns", "exp-random"⟩], rbs := [⟨"ns", "exp-random"⟩],
    db := [("exp-t1", [{ metric := "acc", text := "unavailable", key := none, ts := some 2 }])], algoN := 1 }

def isWrite : Call → Bool
  | .dbGet _ => false
  | _ => true

theorem C04_wedge_counterexample :
    ((expPlan wedgeWorld ⟨"ns", "exp"⟩ 9).calls.filter isWrite).isEmpty = true ∧
    ((sugPlan wedgeWorld ⟨"ns", "exp"⟩ {} 9).calls.filter isWrite).isEmpty = true ∧
    ((trialPlan wedgeWorld ⟨"ns", "exp-t1"⟩ 9).calls.filter isWrite).isEmpty = true ∧
    (findExp wedgeWorld ⟨"ns", "exp"⟩).any (fun e => !isCompleted e.st.conds && e.maxT == some 2) = true := by
  decide

end Katib.Ctl
