import Katib.Gen.Guards
import Katib.Model.DB
/-!
# C19: the model of `GetObservationLog` decides under the source's path conditions, for both back ends

`Katib/Gen/Guards.lean` (regenerated on every run by `kvh extract guards`) holds, for `GetObservationLog` of the MySQL and of the
PostgreSQL back end (pkg/db/v1beta1/{mysql/mysql.go, postgres/postgres.go}), the conditions under which the metric name, the
start time and the end time are appended to the statement's arguments, the two time errors and the query error are returned,
the query is issued and a row is appended to the result.
-/
namespace Katib.Gen
open Katib.DB

theorem C19_get_guards_known :
    myAddMetricGuardUnknown = [] ∧ myErrStartGuardUnknown = [] ∧ myAddStartGuardUnknown = [] ∧ myErrEndGuardUnknown = [] ∧
    myAddEndGuardUnknown = [] ∧ myQueryGuardUnknown = [] ∧ myErrQueryGuardUnknown = [] ∧ myRowGuardUnknown = [] ∧
    pgAddMetricGuardUnknown = [] ∧ pgErrStartGuardUnknown = [] ∧ pgAddStartGuardUnknown = [] ∧ pgErrEndGuardUnknown = [] ∧
    pgAddEndGuardUnknown = [] ∧ pgQueryGuardUnknown = [] ∧ pgErrQueryGuardUnknown = [] ∧ pgRowGuardUnknown = [] ∧
    myAddMetricGuardSites = 1 ∧ myErrStartGuardSites = 1 ∧ myAddStartGuardSites = 1 ∧ myErrEndGuardSites = 1 ∧
    myAddEndGuardSites = 1 ∧ myQueryGuardSites = 1 ∧ myErrQueryGuardSites = 1 ∧ myRowGuardSites = 1 ∧
    pgAddMetricGuardSites = 1 ∧ pgErrStartGuardSites = 1 ∧ pgAddStartGuardSites = 1 ∧ pgErrEndGuardSites = 1 ∧
    pgAddEndGuardSites = 1 ∧ pgQueryGuardSites = 1 ∧ pgErrQueryGuardSites = 1 ∧ pgRowGuardSites = 1 := by decide

/-- **C19_backends_agree**: the two back ends build and run the query under the same conditions -/
theorem C19_backends_agree :
    myAddMetricGuard = pgAddMetricGuard ∧ myErrStartGuard = pgErrStartGuard ∧ myAddStartGuard = pgAddStartGuard ∧
    myErrEndGuard = pgErrEndGuard ∧ myAddEndGuard = pgAddEndGuard ∧ myQueryGuard = pgQueryGuard ∧
    myErrQueryGuard = pgErrQueryGuard ∧ myRowGuard = pgRowGuard :=
  ⟨rfl, rfl, rfl, rfl, rfl, rfl, rfl, rfl⟩

abbrev DbG := Bool → Bool → Bool → Bool → Bool → Bool → Bool → Bool → Bool → Bool

def filterText : Filter → String | .ok f => f | _ => ""

/-- the atoms on a request: a filter is present when its text is non-empty, `bad` when it does not parse -/
def getG (metric : String) (start end_ : Filter) (queryFails scanFails parseFails : Bool) (g : DbG) : Bool :=
  g (decide (metric ≠ "")) (decide (start ≠ .absent)) (decide (end_ ≠ .absent)) (decide (start = .bad)) (decide (end_ = .bad))
    queryFails scanFails parseFails false

def getGen (d : Dialect) (trial metric : String) (start end_ : Filter) : Except Err Stmt :=
  let G := getG metric start end_ false false false
  if G myErrStartGuard || G myErrEndGuard then .error .badTime
  else .ok { sql := selectSql d (G myAddMetricGuard) (G myAddStartGuard) (G myAddEndGuard),
             args := trial :: ((if G myAddMetricGuard then [metric] else []) ++ (if G myAddStartGuard then [filterText start] else []) ++
                               (if G myAddEndGuard then [filterText end_] else [])) }

/-- **C19_get_is_source**: the statement and its arguments are assembled, and the time errors returned, under the source's
    conditions (by `C19_backends_agree`, those of either back end); the statement is issued exactly when no error was returned -/
theorem C19_get_is_source (d : Dialect) (trial metric : String) (start end_ : Filter) :
    DB.get d trial metric start end_ = getGen d trial metric start end_ ∧
    ((DB.get d trial metric start end_).toBool = getG metric start end_ false false false myQueryGuard) := by
  unfold DB.get getGen getG myErrStartGuard myErrEndGuard myAddMetricGuard myAddStartGuard myAddEndGuard myQueryGuard
  cases start <;> cases end_ <;> simp [filterText, Except.toBool]

/-- a row is appended exactly when the query, the scan and the time parse succeed (`Row.time` of the model is `some` exactly
    when scan and parse succeed) -/
theorem C19_row_is_source (r : Row) (metric : String) (scanFails parseFails : Bool) (h : r.time.isSome = (!scanFails && !parseFails)) :
    (r.time.map (fun t => (t, r.name, r.value))).toList =
      if getG metric .absent .absent false scanFails parseFails myRowGuard then [(r.time.getD "", r.name, r.value)] else [] := by
  unfold getG myRowGuard
  cases ht : r.time <;> cases scanFails <;> cases parseFails <;> simp_all

/-- **C19_rows_loop_is_source**: for every result set (any number of rows, any of them failing to scan or to parse), the rows the
    model reads back are the concatenation, in order, of what the generated row guard lets each iteration append -/
theorem C19_rows_loop_is_source (rows : List Row) (metric : String) (sf pf : Row → Bool)
    (h : ∀ r ∈ rows, r.time.isSome = (!sf r && !pf r)) :
    readRows rows =
      rows.flatMap (fun r => if getG metric .absent .absent false (sf r) (pf r) myRowGuard
        then [(r.time.getD "", r.name, r.value)] else []) := by
  induction rows with
  | nil => simp [readRows]
  | cons r rest ih =>
    have hr := C19_row_is_source r metric (sf r) (pf r) (h r (by simp))
    have ih' := ih (fun x hx => h x (by simp [hx]))
    unfold readRows at ih' ⊢
    rw [List.flatMap_cons, ← hr, ← ih', List.filterMap_cons]
    cases r.time <;> simp

end Katib.Gen
