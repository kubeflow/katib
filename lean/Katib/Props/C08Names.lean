import Katib.Lemmas.ExpPlan
import Katib.Lemmas.Sched
import Katib.Lemmas.SugPlan
import Katib.Lemmas.TrialPlan
import Std.Data.String.ToNat
/-!
# C08 over whole schedules: the names of a Suggestion's assignments are unique

`C08_names_unique_world`: for every list of simulator operations (no hypothesis on the schedule — lagging views, fault masks,
abort points, budget edits, Trial deletions, several experiments sharing one algorithm service) the assignment list of every
Suggestion is duplicate-free.

The model's algorithm service hands out names from one counter (`freshNames e n j` = `e-t(n+1) … e-t(n+j)`, the assumption
"the algorithm service returns fresh names" of the trusted base); what is proved is that the *controller* never duplicates:
a status write carries the list of a Suggestion that was read (any snapshot of the history) or that list extended by the
names of one reply, and the reply's names come from above the counter value at planning time, which bounds every name in
every snapshot.  The appending write comes after the RPC on the plan (`Prog.NamesB`: a sequencing-aware plan predicate — the
bound a write may rely on grows by what the calls before it on the path consumed).
-/
namespace Katib.Ctl
open Katib Katib.Exp

theorem freshName_inj {e : String} {i j : Nat} (h : freshName e i = freshName e j) : i = j := by
  unfold freshName at h
  have h1 := (String.append_right_inj (e ++ "-t")).1 h
  exact Nat.repr_injective h1

/-- every name is `e-t<i>` for some `i ≤ n` -/
def Bounded (e : String) (n : Nat) (names : List String) : Prop := ∀ x ∈ names, ∃ i, i ≤ n ∧ x = freshName e i

def NOk (e : String) (n : Nat) (names : List String) : Prop := names.Nodup ∧ Bounded e n names

theorem NOk.mono {e : String} {n m : Nat} {l : List String} (h : NOk e n l) (hnm : n ≤ m) : NOk e m l :=
  ⟨h.1, fun x hx => by obtain ⟨i, hi, rfl⟩ := h.2 x hx; exact ⟨i, by omega, rfl⟩⟩

theorem nok_nil (e : String) (n : Nat) : NOk e n [] := ⟨List.nodup_nil, fun _ h => by cases h⟩

theorem freshNames_nodup (e : String) (n k : Nat) : (freshNames e n k).Nodup := by
  induction k generalizing n with
  | zero => exact List.nodup_nil
  | succ k ih =>
    simp only [freshNames, List.nodup_cons]
    refine ⟨?_, ih (n + 1)⟩
    intro hmem
    obtain ⟨i, h1, _, h3⟩ := freshNames_mem e (n + 1) k _ hmem
    have := freshName_inj h3
    omega

theorem nok_append {e : String} {n : Nat} {l : List String} (h : NOk e n l) (j : Nat) : NOk e (n + j) (l ++ freshNames e n j) := by
  refine ⟨?_, ?_⟩
  · rw [List.nodup_append]
    refine ⟨h.1, freshNames_nodup e n j, ?_⟩
    intro a ha b hb hab
    obtain ⟨i, hi, rfl⟩ := h.2 a ha
    obtain ⟨i', h1, _, h3⟩ := freshNames_mem e n j b hb
    rw [h3] at hab
    have := freshName_inj hab
    omega
  · intro x hx
    rcases List.mem_append.1 hx with hx | hx
    · exact (h.mono (Nat.le_add_right n j)).2 x hx
    · obtain ⟨i, _, h2, h3⟩ := freshNames_mem e n j x hx
      exact ⟨i, h2, h3⟩

def NInv (k : Key2) (w : World) : Prop := ∀ s, findSug w k = some s → NOk k.name w.algoN s.st.names

/-- what a call may write into Suggestion `k` when the counter stands at `n` or above -/
def Pn (k : Key2) (n : Nat) : Call → Prop
  | .sugCreate s' => s'.key = k → s'.st.names = []
  | .sugStatus k' _ st' => k' = k → NOk k.name n st'.names
  | _ => True

theorem Pn.mono {k : Key2} {n m : Nat} {c : Call} (h : Pn k n c) (hnm : n ≤ m) : Pn k m c := by
  cases c with
  | sugStatus _ _ _ => exact fun hk => (h hk).mono hnm
  | _ => exact h

/-- names the call takes from the algorithm service when it succeeds -/
def Call.consumed : Call → Nat
  | .rpcGetSuggestions _ _ _ _ c true => c
  | _ => 0

/-- sequencing-aware plan predicate: a call may rely on the counter having passed `n`, and on the success branch of a call
    everything may rely on what that call consumed as well -/
def Prog.NamesB (k : Key2) : Prog → Nat → Prop
  | .done _, _ => True
  | .step c ok fail, n => Pn k n c ∧ ok.NamesB k (n + c.consumed) ∧ fail.NamesB k n

theorem Prog.NamesB.mono {k : Key2} : ∀ {p : Prog} {n m : Nat}, p.NamesB k n → n ≤ m → p.NamesB k m
  | .done _, _, _, _, _ => trivial
  | .step _ _ _, _, _, ⟨h1, h2, h3⟩, hnm => ⟨h1.mono hnm, Prog.NamesB.mono h2 (by omega), Prog.NamesB.mono h3 hnm⟩

theorem namesB_of_all {k : Key2} : ∀ {p : Prog} {n : Nat}, p.All (Pn k n) → p.NamesB k n
  | .done _, _, _ => trivial
  | .step _ _ _, _, ⟨h1, h2, h3⟩ => ⟨h1, (namesB_of_all h2).mono (by omega), namesB_of_all h3⟩

theorem ninv_same {k : Key2} {w w' : World} (h : NInv k w) (hs' : w'.sugs = w.sugs) (ha : w.algoN ≤ w'.algoN) : NInv k w' := by
  intro s hs
  rw [findSug_congr hs'] at hs
  exact (h s hs).mono ha

theorem applyCall_algoN {w w' : World} {c : Call} (h : applyCall w c = .ok w') : w'.algoN = w.algoN + c.consumed := by
  by_cases hp : c.part = .algo
  · have he := applyCall_ok h
    cases c with
    | rpcGetSuggestions e cur total ts consume ok => obtain ⟨rfl, rfl⟩ := he; rfl
    | _ => cases hp
  · rw [(applyCall_frame h).algoN hp]
    cases c with
    | rpcGetSuggestions e cur total ts consume ok => exact absurd rfl hp
    | _ => rfl

theorem apply_pres_N {k : Key2} {n : Nat} {w w' : World} {c : Call} (hU : NInv k w) (hJ : Pn k n c) (hn : n ≤ w.algoN)
    (h : applyCall w c = .ok w') : NInv k w' ∧ w.algoN + c.consumed ≤ w'.algoN := by
  have hA := applyCall_algoN h
  refine ⟨fun s hs => NOk.mono ?_ (Nat.le.intro hA.symm), Nat.le_of_eq hA.symm⟩
  refine applyCall_findSug (P := fun s => NOk k.name w.algoN s.st.names) h hU (fun hc hk => ?_) (fun _ s hs => hU s hs)
    (fun hc _ _ => ?_) s hs
  · subst hc
    rw [hJ hk]
    exact nok_nil _ _
  · subst hc
    exact (hJ rfl).mono hn

theorem exec_names {k : Key2} (f : Faults) :
    ∀ (p : Prog) (n : Nat) (w : World) (i : Nat) (log : List String), p.NamesB k n → NInv k w → n ≤ w.algoN →
      NInv k (exec f p w i log).w ∧ w.algoN ≤ (exec f p w i log).w.algoN
  | .done _, _, _, _, _, _, hi, _ => ⟨hi, Nat.le_refl _⟩
  | .step c ok fail, n, w, i, log, ⟨hc, hok, hfail⟩, hi, hn => by
    unfold exec
    split
    · exact exec_names f fail n w (i + 1) _ hfail hi hn
    · split
      · rename_i w' hw'
        obtain ⟨hi', hA⟩ := apply_pres_N hi hc hn hw'
        have := exec_names f ok (n + c.consumed) w' (i + 1) (log ++ [c.what ++ ":ok"]) hok hi' (by omega)
        exact ⟨this.1, by omega⟩
      · exact exec_names f fail n w (i + 1) _ hfail hi hn

section SugWalk
variable (k : Key2) (v : World) (s : SugO) (hk : s.key = k)

theorem nb_sugFinish_keep {n : Nat} (st : SugSt) (h1 : st.names = s.st.names) (hs : NOk k.name n s.st.names) :
    (sugFinish s st).NamesB k n :=
  namesB_of_all (all_sugFinish.2 fun _ _ => h1 ▸ hs)

theorem nb_sugErr {n : Nat} (st : SugSt) (hs : NOk k.name n s.st.names) : (sugErr s st).NamesB k n :=
  namesB_of_all (all_sugErr.2 fun _ _ => hs)

theorem nb_createIfAbsent {n : Nat} {b : Bool} {c : Call} {next fail : Prog} (hc : Pn k n c) (hc0 : c.consumed = 0)
    (h1 : next.NamesB k n) (h2 : fail.NamesB k n) : (createIfAbsent b c next fail).NamesB k n := by
  unfold createIfAbsent; split
  · exact h1
  · exact ⟨hc, by rw [hc0]; exact h1, h2⟩

include hk in
theorem nb_sugAfterReply (st : SugSt) (env : SugEnv) (j : Nat) (cur : Int) (h1 : st.names = s.st.names)
    (hs : NOk k.name v.algoN s.st.names) : (sugAfterReply v s st env j cur).NamesB k (v.algoN + j) := by
  have hs' : NOk k.name (v.algoN + j) s.st.names := hs.mono (by omega)
  have fin : (sugFinish s (sugAppend v s st j)).NamesB k (v.algoN + j) := by
    refine namesB_of_all (all_sugFinish.2 fun _ _ => ?_)
    show NOk k.name (v.algoN + j) (st.names ++ freshNames s.key.name v.algoN j)
    rw [h1, hk]; exact nok_append hs j
  unfold sugAfterReply
  split
  · exact nb_sugErr k s st hs'
  · split
    · exact ⟨trivial, fin, nb_sugErr k s st hs'⟩
    · exact fin

include hk in
theorem nb_sugSync (st : SugSt) (ts : List TrialO) (env : SugEnv) (h1 : st.names = s.st.names)
    (hs : NOk k.name v.algoN s.st.names) : (sugSync v s st ts env).NamesB k v.algoN := by
  unfold sugSync
  simp only []
  split
  · exact nb_sugFinish_keep k s st h1 hs
  · split
    · exact ⟨trivial, (nb_sugErr k s st hs).mono (by omega), nb_sugErr k s st hs⟩
    · exact ⟨trivial, nb_sugAfterReply k v s hk st env _ _ h1 hs, nb_sugErr k s st hs⟩

include hk in
theorem nb_sugTail (st1 : SugSt) (env : SugEnv) (now : Nat) (h1 : st1.names = s.st.names)
    (hs : NOk k.name v.algoN s.st.names) : (sugTail v s st1 env now).NamesB k v.algoN := by
  unfold sugTail
  split
  · exact nb_sugErr k s _ hs
  · simp only []
    split
    · refine ⟨trivial, ?_, nb_sugFinish_keep k s _ h1 hs⟩
      simp only [Call.consumed, Nat.add_zero]
      split
      · exact ⟨trivial, nb_sugSync k v s hk _ _ env h1 hs, nb_sugFinish_keep k s _ h1 hs⟩
      · exact nb_sugSync k v s hk _ _ env h1 hs
    · exact nb_sugSync k v s hk _ _ env h1 hs

include hk in
theorem nb_sugDeploy (env : SugEnv) (now : Nat) (hs : NOk k.name v.algoN s.st.names) : (sugDeploy v s env now).NamesB k v.algoN := by
  unfold sugDeploy
  simp only []
  split
  · exact ⟨trivial, nb_sugFinish_keep k s _ rfl hs, nb_sugErr k s _ hs⟩
  · split
    · exact nb_sugFinish_keep k s _ rfl hs
    · exact nb_sugTail k v s hk _ env now rfl hs

include hk in
theorem nb_sugReconcile (env : SugEnv) (now : Nat) (hs : NOk k.name v.algoN s.st.names) :
    (sugReconcile v s env now).NamesB k v.algoN := by
  have errK : ∀ st, (sugErr s st).NamesB k v.algoN := fun st => nb_sugErr k s st hs
  have rbac : (sugRbac v s env now).NamesB k v.algoN := by
    unfold sugRbac
    split
    · exact nb_createIfAbsent k trivial rfl (nb_createIfAbsent k trivial rfl
        (nb_createIfAbsent k trivial rfl (nb_sugDeploy k v s hk env now hs) (errK _)) (errK _)) (errK _)
    · exact nb_sugDeploy k v s hk env now hs
  unfold sugReconcile
  split
  · exact nb_createIfAbsent k trivial rfl (nb_createIfAbsent k trivial rfl rbac (errK _)) (errK _)
  · exact nb_createIfAbsent k trivial rfl rbac (errK _)

end SugWalk

theorem sugPlan_namesB (k : Key2) (v : World) (k' : Key2) (env : SugEnv) (now : Nat)
    (hv : ∀ s, findSug v k = some s → NOk k.name v.algoN s.st.names) : (sugPlan v k' env now).NamesB k v.algoN := by
  by_cases hkk : k' = k
  · subst hkk
    cases hsg : findSug v k' with
    | none => rw [sugPlan_none env now hsg]; trivial
    | some s =>
      have hs := hv s hsg
      rw [sugPlan_eq env now hsg]
      split
      · exact namesB_of_all (all_sugTeardown.2 ⟨fun _ => trivial, fun _ => trivial⟩)
      · split
        · exact nb_sugFinish_keep k' s _ rfl hs
        · exact nb_sugReconcile k' v s (findSug_key hsg) env now hs
  · exact namesB_of_all <| sugPlan_all fun s hsg c hc => by
      cases hc with
      | status _ _ => exact fun h2 => absurd ((findSug_key hsg).symm.trans h2) hkk
      | _ => trivial

theorem Plan.namesB (k : Key2) {v : World} {now : Nat} {p : Prog} (hp : Plan v now p)
    (hv : ∀ s, findSug v k = some s → NOk k.name v.algoN s.st.names) : p.NamesB k v.algoN := by
  cases hp with
  | exp k' =>
    exact namesB_of_all <| expPlan_all fun e _ c hc => by
      cases hc with
      | cleanup _ _ hs _ | restart _ _ _ hs _ => exact fun hk => hv _ (hk ▸ hs)
      | sugCreate _ _ => exact fun _ => rfl
      | _ => trivial
  | sug k' env => exact sugPlan_namesB k v k' env now hv
  | trial k' => exact namesB_of_all <| trialPlan_all fun _ _ _ hc => by cases hc <;> trivial

/-- every snapshot satisfies `NInv k`, and the counter of the algorithm service only grows -/
theorem namesSched (k : Key2) : Sched (fun _ => True) (fun _ => NInv k) (fun a b => a.algoN ≤ b.algoN) where
  refl _ := Nat.le_refl _
  trans := Nat.le_trans
  push _ h := h
  plan {s p} f vE vT vS vD hp hI := by
    -- the view takes the Suggestions from a snapshot and the counter from the live store, which has only grown since
    refine exec_names f p _ _ 0 [] (hp.namesB k fun sg hsg => ?_) hI.cur (Nat.le_refl _)
    obtain ⟨h1, h2⟩ := hI.snap vS
    exact (h1 sg (findSug_assemble .. ▸ hsg)).mono h2
  env _ hop hI := ⟨ninv_same hI.cur (stepWorld_sugs hop) (Nat.le_of_eq (stepWorld_algoN hop).symm), Nat.le_of_eq (stepWorld_algoN hop).symm⟩

/-- **C08_names_unique_world**: over every schedule (no hypothesis) the assignment names of every Suggestion are pairwise
    distinct — now and in every snapshot of the history. -/
theorem C08_names_unique_world (k : Key2) (es : List ExpInit) (ops : List Op) :
    let s := run (Sim.init es) ops
    (∀ sg, findSug s.cur k = some sg → sg.st.names.Nodup) ∧
    (∀ (i : Nat) (h : World) (sh : SugO), s.hist[i]? = some h → findSug h k = some sh → sh.st.names.Nodup) := by
  intro s
  have hI := (namesSched k).run_init es (ops := ops) (fun _ _ => trivial) fun _ h => nomatch h
  exact ⟨fun sg h => (hI.cur sg h).1, fun i h sh hh hs => ((hI.past i h hh).1 sh hs).1⟩

/-- non-vacuity: a concrete schedule (experiment, suggestion, deployment ready, one sync of two assignments) ends with the
    two distinct names `exp-t1`, `exp-t2` -/
example :
    let k : Key2 := { ns := "ns", name := "exp" }
    let cfg : ExpCfg := { goal := none, objType := .maximize, resume := .never, es := false, retain := false, push := false, labels := false }
    let s := run (Sim.init [{ key := k, par := 2, maxT := some 2, maxF := none, cfg := cfg }])
      [.recExp k 100 100 100 {}, .recExp k 100 100 100 {}, .recExp k 100 100 100 {}, .recSug k 100 100 100 100 {} {}, .recSug k 100 100 100 100 {} {},
       .deployReady k, .recSug k 100 100 100 100 {} {}]
    (findSug s.cur k).map (·.st.names) = some ["exp-t1", "exp-t2"] := by decide

end Katib.Ctl
