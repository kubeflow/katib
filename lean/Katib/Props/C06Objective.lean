import Katib.Lemmas.TrialSt
/-!
# A Succeeded Trial holds an objective value and is not EarlyStopped — over every schedule

`C06_succeeded_has_objective`: for every list of simulator operations (no hypothesis on the schedule), every Trial of the
current store that is Succeeded has an observation in which the objective metric is available, and is neither EarlyStopped
nor Failed nor MetricsUnavailable.
The trial controller marks Succeeded only in the branch guarded by `IsObservationAvailable` and not-EarlyStopped, reached only
for a Trial without terminal condition; every other status it writes for a Trial that is already Succeeded leaves conditions
and observation alone (a Succeeded Trial that is not EarlyStopped is not observed again); the early-stopping service only
touches Trials that are not completed.
-/
namespace Katib.Ctl
open Katib Katib.Exp

def QOk (st : TrialSt) : Prop :=
  Cond.has st.conds .succeeded = true →
    obsAvailable st = true ∧ Cond.has st.conds .earlyStopped = false ∧ Cond.has st.conds .failed = false ∧
    Cond.has st.conds .metricsUnavailable = false

def QInv (w : World) : Prop := TrialStInv QOk w

theorem qok_of_not_succeeded {st : TrialSt} (h : Cond.has st.conds .succeeded = false) : QOk st := by
  intro hs; rw [h] at hs; cases hs

theorem qok_of_same {a b : TrialSt} (ho : obsAvailable b = obsAvailable a)
    (hc : ∀ c, c ≠ TCT.created → Cond.has b.conds c = Cond.has a.conds c) (h : QOk a) : QOk b := by
  unfold QOk
  rw [ho, hc _ (by decide), hc _ (by decide), hc _ (by decide), hc _ (by decide)]
  exact h

theorem trialPlan_q (v : World) (k : Key2) (now : Nat) (hv : QInv v) : (trialPlan v k now).All (TrialStJust QOk) :=
  trialPlan_all fun t ht _ hc => by
    have hq : QOk t.st := hv t (findTrial_mem ht)
    cases hc with
    | status hw _ =>
      cases hw with
      | created _ _ => exact qok_of_same (a := t.st) rfl (fun _ h => Cond.has_set_other h) hq
      | @updated _ _ st _ _ hu hm =>
        have hcs := hu.obs.conds
        -- a Succeeded Trial is not early-stopped, so it is completed and its status is not updated
        have hns : Cond.has st.conds .succeeded = false := Bool.eq_false_iff.2 fun hs => by
          rw [hcs] at hs
          cases hs.symm.trans (not_completed_has (hu.not_completed (hcs ▸ (hq hs).2.1))).1
        have other : ∀ {st' : TrialSt}, Cond.has st'.conds .succeeded = Cond.has st.conds .succeeded → QOk st' :=
          fun h => qok_of_not_succeeded (h.trans hns)
        cases hm with
        | succeeded ho _ hes =>
          obtain ⟨_, hf, _, _, hmu⟩ := not_completed_has (hu.not_completed hes)
          intro _
          refine ⟨ho, ?_, ?_, ?_⟩
          · exact (has_tMark_other (by decide) (by decide)).trans hes
          · exact (has_tMark_other (by decide) (by decide)).trans (hcs ▸ hf)
          · exact (has_tMark_other (by decide) (by decide)).trans (hcs ▸ hmu)
        | unavailable _ _ => exact other (has_tMark_other (by decide) (by decide))
        | failed _ _ => exact other (has_tMark_other (by decide) (by decide))
        | running _ _ => exact other (Cond.has_set_other (by decide))
        | kept => exact other rfl
    | _ => trivial

/-- **C06_succeeded_has_objective**: over every schedule (no hypothesis), a Succeeded Trial holds an observation in which
    the objective metric is available, and is neither EarlyStopped nor Failed nor MetricsUnavailable. -/
theorem C06_succeeded_has_objective (es : List ExpInit) (ops : List Op) :
    ∀ t ∈ (run (Sim.init es) ops).cur.trials, tHas t .succeeded = true →
      obsAvailable t.st = true ∧ tHas t .earlyStopped = false ∧ tHas t .failed = false ∧ tHas t .metricsUnavailable = false :=
  trialSt_run (P := QOk) nofun trialPlan_q (fun hc hnc _ => qok_of_not_succeeded (by
    rw [Cond.has_append_other (by rw [hc]; nofun)]
    exact (not_completed_has hnc).1)) es ops

end Katib.Ctl
