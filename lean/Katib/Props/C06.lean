import Katib.Lemmas.TrialPlan
/-!
# C06 — Trial verdicts: Succeeded needs an objective value; terminal states permanent

Statements about every Trial status write on every path of `Katib.Ctl.trialPlan` (any view, faults, abort point).
-/
namespace Katib.Ctl
open Katib

/-- what a Trial status write may do, given the state of the run object the reconcile looked at (`none`: no run object) -/
def VerdictGuard (t : TrialO) (state : Option JobState) : Call → Prop
  | .trialStatus _ _ st' =>
    -- no condition other than Running is ever withdrawn
    (∀ c, c ≠ .running → Cond.has t.st.conds c = true → Cond.has st'.conds c = true) ∧
    -- Succeeded: the job met the success condition, an objective value is in the observation, no other verdict present
    (Cond.has st'.conds .succeeded = true → Cond.has t.st.conds .succeeded = false →
        state = some .succeeded ∧ obsAvailable st' = true ∧ tCompleted t = false ∧
        Cond.has st'.conds .failed = false ∧ Cond.has st'.conds .metricsUnavailable = false ∧ Cond.has st'.conds .earlyStopped = false) ∧
    -- Failed: the job met the failure condition (checked first)
    (Cond.has st'.conds .failed = true → Cond.has t.st.conds .failed = false →
        (state = some .failed ∨ state = some .both) ∧ Cond.has t.st.conds .succeeded = false) ∧
    -- MetricsUnavailable: the job succeeded and no objective value was collected
    (Cond.has st'.conds .metricsUnavailable = true → Cond.has t.st.conds .metricsUnavailable = false →
        state = some .succeeded ∧ obsAvailable st' = false)
  | _ => True

theorem guard_unchanged_conds (t : TrialO) (state : Option JobState) (st' : TrialSt) (h : st'.conds = t.st.conds) :
    VerdictGuard t state (.trialStatus t.key t.rv st') := by
  refine ⟨?_, ?_, ?_, ?_⟩
  · intro c _ hc; rw [h]; exact hc
  · intro h1 h2; rw [h, h2] at h1; cases h1
  · intro h1 h2; rw [h, h2] at h1; cases h1
  · intro h1 h2; rw [h, h2] at h1; cases h1

theorem guard_mark {t : TrialO} {state : Option JobState} {st' : TrialSt} (ty : TCT) (hself : Cond.has st'.conds ty = true)
    (hother : ∀ c, c ≠ ty → c ≠ .running → Cond.has st'.conds c = Cond.has t.st.conds c)
    (hs : ty = .succeeded → state = some .succeeded ∧ obsAvailable st' = true ∧ tCompleted t = false)
    (hf : ty = .failed → (state = some .failed ∨ state = some .both) ∧ Cond.has t.st.conds .succeeded = false)
    (hm : ty = .metricsUnavailable → state = some .succeeded ∧ obsAvailable st' = false) :
    VerdictGuard t state (.trialStatus t.key t.rv st') := by
  refine ⟨fun c hc hold => ?_, fun h1 h2 => ?_, fun h1 h2 => ?_, fun h1 h2 => ?_⟩
  · by_cases hcs : c = ty
    · rw [hcs]; exact hself
    · rw [hother c hcs hc]; exact hold
  · by_cases hty : ty = .succeeded
    · obtain ⟨a, b, c⟩ := hs hty
      obtain ⟨_, n2, _, n4, n5⟩ := not_completed_has c
      subst hty
      refine ⟨a, b, c, ?_, ?_, ?_⟩
      · rw [hother _ (by decide) (by decide)]; exact n2
      · rw [hother _ (by decide) (by decide)]; exact n5
      · rw [hother _ (by decide) (by decide)]; exact n4
    · rw [hother _ (Ne.symm hty) (by decide), h2] at h1; cases h1
  · by_cases hty : ty = .failed
    · exact hf hty
    · rw [hother _ (Ne.symm hty) (by decide), h2] at h1; cases h1
  · by_cases hty : ty = .metricsUnavailable
    · exact hm hty
    · rw [hother _ (Ne.symm hty) (by decide), h2] at h1; cases h1

theorem TrialJob.looked {v : World} {t : TrialO} {state : JobState} (h : TrialJob v t state) :
    ((findJob v t.key).map (·.state)).orElse (fun _ => some .running) = some state := by
  cases h with
  | created _ hj _ => rw [hj]; rfl
  | found _ hj _ => rw [hj]; rfl

/-- C06_verdict_guard: every Trial status write of a reconcile respects the verdict rules (see `VerdictGuard`):
    terminal conditions are never withdrawn, Succeeded needs job success *and* an objective value and excludes the
    other verdicts, Failed needs the failure condition, MetricsUnavailable needs job success without objective value.
    Hypothesis: the Trial the controller sees is not both Succeeded and EarlyStopped (an invariant of the model's
    worlds: `TInv`, Lemmas/Verdict.lean). -/
theorem C06_verdict_guard (v : World) (k : Key2) (now : Nat) (t : TrialO) (ht : findTrial v k = some t)
    (hexcl : tHas t .succeeded = true → tHas t .earlyStopped = false) :
    (trialPlan v k now).All (VerdictGuard t ((findJob v k).map (·.state) |>.orElse (fun _ => some .running))) := by
  have hk := findTrial_key ht
  subst hk
  refine (trialPlan_spec now ht).mono fun c hc => ?_
  cases hc with
  | status hw _ =>
    cases hw with
    | created _ _ =>
      exact guard_mark .created (Cond.has_set_self) (fun c h _ => Cond.has_set_other h)
        (fun h => by cases h) (fun h => by cases h) (fun h => by cases h)
    | @updated _ _ st _ hj hu hm =>
      rw [hj.looked]
      have hcs := hu.obs.conds
      have other : ∀ {ty : TCT} {r : String} (c : TCT), c ≠ ty → c ≠ .running →
          Cond.has (tMark st.conds ty r now) c = Cond.has t.st.conds c := fun c h h' => by
        rw [← hcs]
        exact has_tMark_other h h'
      cases hm with
      | succeeded h1 _ h3 =>
        exact guard_mark .succeeded (has_tMark_self) other
          (fun _ => ⟨congrArg some (jsOf_succeeded hu.status), h1, hu.not_completed h3⟩) (fun h => by cases h) (fun h => by cases h)
      | unavailable h1 _ =>
        refine guard_mark .metricsUnavailable (has_tMark_self) other (fun h => by cases h) (fun h => by cases h)
          (fun _ => ⟨congrArg some (jsOf_succeeded hu.status), Bool.eq_false_iff.2 fun ho => ?_⟩)
        -- an objective value with the test failing means the Trial is Succeeded already: then it is completed, so it got
        -- here as early-stopped, and Succeeded excludes that
        have hsucc : Cond.has t.st.conds .succeeded = true := by simpa [hcs] using Bool.and_eq_false_imp.1 h1 ho
        cases hsucc.symm.trans (not_completed_has (hu.not_completed (hcs ▸ hexcl hsucc))).1
      | failed _ h2 =>
        exact guard_mark .failed (has_tMark_self) other (fun h => by cases h)
          (fun _ => ⟨(jsOf_failed hu.status).imp (congrArg some) (congrArg some), (not_completed_has (hu.not_completed h2)).1⟩)
          (fun h => by cases h)
      | running _ _ =>
        refine guard_mark .running (Cond.has_set_self) (fun c h _ => ?_)
          (fun h => by cases h) (fun h => by cases h) (fun h => by cases h)
        rw [← hcs]
        exact Cond.has_set_other h
      | kept => exact guard_unchanged_conds t _ _ hcs
  | _ => trivial

/-! Non-vacuity: job succeeded, objective value in the DB, created+running trial ⇒ the status write marks Succeeded. -/
example :
    let t : TrialO := { key := ⟨"ns", "t1"⟩, exp := "e", fin := true, retain := true, push := false, objType := .maximize,
                        st := { conds := [⟨.created, true, rTrialCreated, 0⟩, ⟨.running, true, rTrialRunning, 1⟩] } }
    let v : World := { trials := [t], jobs := [{ key := ⟨"ns", "t1"⟩, state := .succeeded }],
                       db := [("t1", [⟨"acc", "0.5", some 5, some 3⟩])] }
    (trialPlan v ⟨"ns", "t1"⟩ 9).calls.any (fun c => match c with
      | .trialStatus _ _ st => Cond.has st.conds .succeeded && obsAvailable st | _ => false) = true := by decide

end Katib.Ctl
