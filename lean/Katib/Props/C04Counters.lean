import Katib.Lemmas.ExpSt
import Katib.Props.C04Quiescent
import Katib.Props.C08Names
/-!
# C04 on schedules: an Experiment without Trials has zero counters

`C04_quiescent_verdict_on_schedules` (Props/C04Quiescent.lean) assumes that the Suggestion's assignment names are pairwise distinct
in the reached store, which is `C08_names_unique_world`, and that an Experiment whose Trial list is empty carries zero
`trialsPending/Running/…` counters.  Here the latter is proved for every schedule without Trial deletions:

* the experiment controller rewrites the counters only from a non-empty Trial list it was shown (`UpdateExperimentStatus` is
  skipped for an empty list): `expPlan_zjust`, by `ExpWrites.closed`;
* every Trial list it can be shown is that of a snapshot of the history, and (without user deletions) a Trial of a snapshot
  is still there (`TPast`);

so non-zero counters mean that some snapshot held a Trial of the Experiment (`EverTrials`, stated relative to the growing
history), and then the current store holds one too.
-/
namespace Katib.Ctl
open Katib Katib.Exp

/-! ## the invariant, relative to the growing history -/

def EverTrials (hs : Array World) (k : Key2) : Prop :=
  Ever hs fun h => ∃ t ∈ h.trials, t.key.ns = k.ns ∧ t.exp = k.name

def ZOk (hs : Array World) (k : Key2) (st : ExpSt) : Prop := (activeCount st = 0 ∧ completedCount st = 0) ∨ EverTrials hs k

theorem zok_counts {hs : Array World} {k : Key2} {a b : ExpSt} (ha : ZOk hs k a) (h : b.counts = a.counts) : ZOk hs k b := by
  unfold ZOk activeCount completedCount at *
  rw [h]
  exact ha

/-- the experiment controller rewrites the counters only in `UpdateExperimentStatus`, which it skips on an empty Trial list -/
theorem expPlan_zjust (hs : Array World) (k : Key2) (v : World) (k' : Key2) (now : Nat)
    (hv : ∀ e ∈ v.exps, e.key = k → ZOk hs k e.st)
    (hT : ∀ t ∈ v.trials, t.key.ns = k.ns → t.exp = k.name → EverTrials hs k) :
    (expPlan v k' now).All (ExpStJust fun k' st => k' = k → ZOk hs k st) :=
  expPlan_all fun e he c hc => by
    cases hc with
    | status hw _ =>
      intro hk
      subst hk
      have stored := hv e (findExp_mem he) rfl
      refine hw.closed (S := ZOk hs e.key) stored (fun _ => zok_counts stored rfl) (fun _ h => zok_counts h rfl)
        (fun _ _ hne => ?_) (fun _ h _ => zok_counts h rfl)
      obtain ⟨t, ht⟩ := List.exists_mem_of_ne_nil _ hne
      obtain ⟨h1, h2, h3⟩ := mem_trialsOf.1 ht
      exact Or.inr (hT t h1 h2 h3)
    | _ => trivial

/-- `ZOk` relative to the history so far; whatever an experiment reconcile is shown as the Trial list is that of a snapshot -/
theorem countersSched (k : Key2) : Sched (fun _ => True) (fun hs w => ∀ e ∈ w.exps, e.key = k → ZOk hs k e.st) (fun _ _ => True) :=
  expStSched (P := fun hs e => e.key = k → ZOk hs k e.st) (Q := fun hs k' st => k' = k → ZOk hs k st)
    (fun w' h hk => (h hk).imp id (Ever.push w')) (fun _ h => h) id id
    fun {s} vE vT _ _ k' hI =>
      expPlan_zjust s.hist k _ k' _ (fun e he => (hI.snap vE).1 e (assemble_exps .. ▸ he))
        (fun t ht h1 h2 => hI.ever_snap vT ⟨t, assemble_trials .. ▸ ht, h1, h2⟩)

/-- **C04_zero_counters_without_trials**: over every schedule without Trial deletions, an Experiment that has no Trial in the
    current store has zero active and completed counters. -/
theorem C04_zero_counters_without_trials (k : Key2) (es : List ExpInit) (ops : List Op)
    (hopd : ∀ op ∈ ops, ∀ k', op ≠ .userDelete k') :
    let w := (run (Sim.init es) ops).cur
    ∀ e, findExp w k = some e → trialsOf w k = [] → activeCount e.st = 0 ∧ completedCount e.st = 0 := by
  intro w e he hnil
  have hZ := (countersSched k).run_init es (ops := ops) (fun _ _ => trivial) (init_exps fun _ _ _ => Or.inl ⟨rfl, rfl⟩)
  rcases hZ.cur e (findExp_mem he) (findExp_key he) with h | ⟨i, h, hh, t, ht, hns, hexp⟩
  · exact h
  · -- without deletions the Trial some snapshot held is still there
    obtain ⟨⟨_, hK⟩, hP⟩ := (verdict_run es hopd).past i h hh
    obtain ⟨tc, h1, _, _, h4, _⟩ := hP t.key t (findTrial_of_mem hK ht)
    have hmem : tc ∈ trialsOf w k :=
      mem_trialsOf.2 ⟨findTrial_mem h1, by rw [findTrial_key h1]; exact hns, by rw [← h4]; exact hexp⟩
    rw [hnil] at hmem
    cases hmem

/-- **C04_quiescent_verdict_on_schedules_full**: the quiescence theorem with the hypotheses on assignment names and counters discharged as well; what
    remains assumed about the reached store is that the Suggestion is not Succeeded (and, as before, `parallelTrialCount ≥ 1` and
    that the Experiment is not under deletion). -/
theorem C04_quiescent_verdict_on_schedules_full (k : Key2) (m : Int) (hm1 : 1 ≤ m) (es : List ExpInit) (ops : List Op)
    (hinit : ∀ e ∈ es, e.key = k → e.maxT = some m)
    (hops : ∀ op ∈ ops, ∀ n, op ≠ .editMax k n) (hopd : ∀ op ∈ ops, ∀ k', op ≠ .userDelete k')
    (now : Nat) (e : ExpO) :
    let w := (run (Sim.init es) ops).cur
    findExp w k = some e → 1 ≤ e.par → e.deleted = false →
    (expPlan w k now).noWrites → (sugPlan w k {} now).noWrites → (∀ t ∈ trialsOf w k, (trialPlan w t.key now).noWrites) →
    (∀ t ∈ trialsOf w k, ∀ j, findJob w t.key = some j → j.state ≠ .running) →
    (∀ t ∈ trialsOf w k, ∀ j, findJob w t.key = some j → j.state = .succeeded →
      (t.push = false → (dbOf w t.key.name).isEmpty = false) ∧
      ((dbOf w t.key.name).isEmpty = false → (Metrics.getMetrics (dbOf w t.key.name) [objMetric]).isSome = true)) →
    (∀ d, findDeploy w (infraKey k) = some d → d.ready = true) →
    (∀ t ∈ trialsOf w k, (!obsAvailable t.st && tHas t .earlyStopped) = false) →
    (∀ s, findSug w k = some s → sHas s .succeeded = false) →
    isCompleted e.st.conds = true := by
  intro w he hpar hdel qE qS qT envJ envM envD nw wfS
  exact C04_quiescent_verdict_on_schedules k m hm1 es ops hinit hops hopd now e he hpar hdel qE qS qT envJ envM envD nw
    (fun s hs => ⟨wfS s hs, (C08_names_unique_world k es ops).1 s hs⟩) (C04_zero_counters_without_trials k es ops hopd e he)

end Katib.Ctl
