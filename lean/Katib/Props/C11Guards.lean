import Katib.Gen.Guards
import Katib.Model.Metrics
/-!
# C11: one iteration of the model's `getMetrics` loop assigns min / max / latest under the source's path conditions

`Katib/Gen/Guards.lean` (regenerated on every run by `kvh extract guards`) holds the conditions under which one iteration of
the loop over the metric logs in `getMetrics` (pkg/controller.v1beta1/trial/trial_controller_util.go) assigns `metric.Min`,
`metric.Max` and `metric.Latest` (two sites each for Min and Max: the first parsable value, and a value below / above the
current one) and returns the timestamp error.  The atoms read on the model: `ok` = the entry's metric is a tracked one (the
record at hand carries its name), `err == nil` = ParseFloat succeeded (`key`), `metric.Min == unavailable` = no parsable value
was seen yet, `floatValue < minMetric` / `> maxMetric` on the keys, `timestamp == nil` / `timestamp.After(currentTime)` on the
recorded instant.
-/
namespace Katib.Gen
open Katib.Metrics

theorem C11_loop_guards_known :
    setMinGuardUnknown = [] ∧ setMaxGuardUnknown = [] ∧ setLatestGuardUnknown = [] ∧ tsErrorGuardUnknown = [] ∧
    setMinGuardSites = 2 ∧ setMaxGuardSites = 2 ∧ setLatestGuardSites = 1 ∧ tsErrorGuardSites = 1 := by decide

/-- the generated guards on a record and an entry; `d` = what a comparison with an unset bound / instant would read (never used) -/
def gmG (tracked : Bool) (m : Metric) (e : Entry) (d : Bool)
    (g : Bool → Bool → Bool → Bool → Bool → Bool → Bool → Bool → Bool → Bool) : Bool :=
  g tracked e.key.isSome e.ts.isNone (!(m.minK.isSome && m.maxK.isSome))
    (match e.key, m.minK with | some k, some lo => decide (k < lo) | _, _ => d)
    (match e.key, m.maxK with | some k, some hi => decide (hi < k) | _, _ => d)
    m.lastTs.isNone
    (match e.ts, m.lastTs with | some t, some l => decide (t < l) | _, _ => d) false

/-- the iteration written with the generated guards -/
def updMetricGen (m : Metric) (e : Entry) (d : Bool) : Option Metric :=
  if gmG true m e d tsErrorGuard then none
  else
    let lo := gmG true m e d setMinGuard
    let hi := gmG true m e d setMaxGuard
    let la := gmG true m e d setLatestGuard
    some { m with min := if lo then e.text else m.min, minK := if lo then e.key else m.minK,
                  max := if hi then e.text else m.max, maxK := if hi then e.key else m.maxK,
                  latest := if la then e.text else m.latest, lastTs := if la then e.ts else m.lastTs,
                  latestK := if la then e.key else m.latestK }

/-- the `err == nil` block: min and max are assigned under their generated conditions -/
theorem updMinMax_gen (m : Metric) (e : Entry) (d : Bool) :
    updMinMax m e =
      { m with min := if gmG true m e d setMinGuard then e.text else m.min,
               minK := if gmG true m e d setMinGuard then e.key else m.minK,
               max := if gmG true m e d setMaxGuard then e.text else m.max,
               maxK := if gmG true m e d setMaxGuard then e.key else m.maxK } := by
  obtain ⟨name, min, max, latest, minK, maxK, lastTs, latestK⟩ := m
  unfold updMinMax gmG setMinGuard setMaxGuard
  cases e.key with
  | none => rfl
  | some k =>
    cases minK with
    | none => rfl
    | some lo =>
      cases maxK with
      | none => rfl
      | some hi =>
        by_cases h1 : k < lo
        · simp [h1]
        · by_cases h2 : hi < k
          · simp [h1, h2]
          · simp [h1, h2]

theorem C11_iteration_is_source (m : Metric) (e : Entry) (d : Bool) : updMetric m e = updMetricGen m e d := by
  have herr : gmG true m e d tsErrorGuard = e.ts.isNone := rfl
  unfold updMetric updMetricGen
  rw [herr]
  cases hts : e.ts with
  | none => rfl
  | some t =>
    -- the timestamp block runs on the record the min / max block left, whose `lastTs` is the old one
    rw [updMinMax_gen m e d]
    unfold updLatest gmG setLatestGuard
    rw [hts]
    cases m.lastTs with
    | none => rfl
    | some l =>
      by_cases h : t < l
      · simp [h]
      · simp [h]

/-- an entry of a metric that is not tracked changes nothing and cannot fail on its own: all four guards are false -/
theorem C11_untracked_is_source (m : Metric) (e : Entry) (d : Bool) :
    gmG false m e d setMinGuard = false ∧ gmG false m e d setMaxGuard = false ∧ gmG false m e d setLatestGuard = false ∧
    gmG false m e d tsErrorGuard = false :=
  ⟨rfl, rfl, rfl, rfl⟩

/-- what one iteration does to one record of the map, written with the generated guards -/
def stepOneGen (e : Entry) (d : Bool) (m : Metric) : Option Metric :=
  if m.name = e.metric then updMetricGen m e d else some m

/-- the loop over the metric logs written with the generated guards: the timestamp error of any entry ends it -/
def runGen (d : Bool) : List Metric → List Entry → Option (List Metric)
  | ms, [] => some ms
  | ms, e :: es =>
    match optMap (stepOneGen e d) ms with
    | some ms' => runGen d ms' es
    | none => none

theorem stepOne_eq_gen (e : Entry) (d : Bool) : stepOne e = stepOneGen e d := by
  funext m; unfold stepOne stepOneGen; rw [C11_iteration_is_source m e d]

/-- **C11_loop_is_source**: for every list of metric logs (any length, any order, any mix of tracked and other metrics) and
    every set of records, the model's loop is the iteration of the step that decides under the regenerated path conditions -/
theorem C11_loop_is_source (d : Bool) (ms : List Metric) (es : List Entry) : run ms es = runGen d ms es := by
  induction es generalizing ms with
  | nil => simp [run, runGen]
  | cons e es ih =>
    simp only [run, runGen, stepEntry, stepOne_eq_gen e d]
    cases optMap (stepOneGen e d) ms with
    | none => rfl
    | some ms' => exact ih ms'

/-- **C11_getMetrics_is_source**: `getMetrics` as a whole, from the records of the objective and additional metric names -/
theorem C11_getMetrics_is_source (d : Bool) (es : List Entry) (strategies : List String) :
    getMetrics es strategies = runGen d (initMetrics strategies) es := by
  unfold getMetrics; exact C11_loop_is_source d _ es

end Katib.Gen
