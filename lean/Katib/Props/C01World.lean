import Katib.Lemmas.BudgetPlans
/-!
# C01 / C08 over whole schedules of the controller model

`C01_total`: for **every** list of simulator operations — reconciles of the three controllers in any order, each reading
every typed kind from an arbitrary earlier snapshot (independently lagging caches), under any fault mask and abort point,
interleaved with any environment events — an experiment with `maxTrialCount = m` that nobody edits never has more than `m`
trials, its suggestion never holds more than `m` assignments nor asks for more, every trial is named by an assignment, and
the assignment list only ever grows by appending (so the bound covers every trial that *ever* existed).
-/
namespace Katib.Ctl
open Katib Katib.Exp

/-- the budget invariant over every schedule that does not edit `maxTrialCount` of `k`: the live store and every snapshot
    satisfy `WInv` and keep `maxTrialCount = m`, and every snapshot is in the `Past` of the live store -/
theorem budgetSched {k : Key2} {m : Int} (hm : 0 ≤ m) :
    Sched (fun op => ∀ n, op ≠ .editMax k n) (fun _ w => WInv k m w ∧ ExpFields k (fun mx _ => mx = some m) w) (Past k) where
  refl := Past.refl k
  trans := Past.trans
  push _ h := h
  plan {s p} f vE vT vS vD hp hI := by
    have h := exec_budget hm f p (hp.vjust hm (assemble_sugs ..)
      (fun e he => (hI.snap vE).1.2 e (findExp_mem (findExp_assemble .. ▸ he)) (findExp_key he))
      (by rw [trialsOf_assemble]; exact trialsOf_le hm (hI.snap vT).1.1)) hI.cur.1 (hI.snap vS).2
    exact ⟨⟨h.1, exec_fields f p hI.cur.2⟩, h.2⟩
  env {s op} hop henv hI := by
    suffices h : WInv k m (stepWorld s op).1 ∧ Past k s.cur (stepWorld s op).1 from ⟨⟨h.1, stepWorld_fields hop hI.cur.2⟩, h.2⟩
    have hW := hI.cur.1
    rcases stepWorld_trials_cases henv with h | ⟨k', _, _, _, _, h⟩ | ⟨k', _, h | h⟩
    · exact hW.frame h (stepWorld_sugs henv)
    · rw [h]; exact hW.frame_updTrial k' (fun _ => ⟨rfl, rfl⟩)
    · rw [h]; exact hW.frame_updTrial k' (fun _ => ⟨rfl, rfl⟩)
    · rw [h]; exact hW.frame_filter _

theorem budget_run {k : Key2} {m : Int} (hm : 0 ≤ m) (es : List ExpInit) {ops : List Op}
    (hinit : ∀ e ∈ es, e.key = k → e.maxT = some m) (hops : ∀ op ∈ ops, ∀ n, op ≠ .editMax k n) :
    SInv (fun _ w => WInv k m w ∧ ExpFields k (fun mx _ => mx = some m) w) (Past k) (run (Sim.init es) ops) :=
  (budgetSched hm).run_init es hops ⟨.init k m es, init_exps hinit⟩

/-- **C01_total** (with C08's append-only assignments at world level). -/
theorem C01_total (k : Key2) (m : Int) (hm : 0 ≤ m) (es : List ExpInit) (ops : List Op)
    (hinit : ∀ e ∈ es, e.key = k → e.maxT = some m) (hops : ∀ op ∈ ops, ∀ n, op ≠ .editMax k n) :
    let s := run (Sim.init es) ops
    ((trialsOf s.cur k).length : Int) ≤ m ∧
    (∀ sg, findSug s.cur k = some sg →
      (sg.st.names.length : Int) ≤ m ∧ sg.requests ≤ m ∧ sg.st.count = (sg.st.names.length : Int) ∧
      ∀ t ∈ trialsOf s.cur k, t.key.name ∈ sg.st.names) ∧
    (∀ (i : Nat) (h : World), s.hist[i]? = some h →
      ((trialsOf h k).length : Int) ≤ m ∧
      ∀ sh, findSug h k = some sh → ∃ sc, findSug s.cur k = some sc ∧ sh.st.names <+: sc.st.names) := by
  intro s
  have hI := budget_run hm es hinit hops
  refine ⟨trialsOf_le hm hI.cur.1, ?_, ?_⟩
  · intro sg hsg
    obtain ⟨a, b, c⟩ := hI.cur.1.sug sg hsg
    refine ⟨a, b, c, ?_⟩
    intro t ht
    obtain ⟨h1, h2, h3⟩ := mem_trialsOf.1 ht
    obtain ⟨s', hs', hmem⟩ := hI.cur.1.tnames t h1 h2 h3
    rw [hsg] at hs'; cases hs'; exact hmem
  · intro i h hh
    obtain ⟨⟨hW, _⟩, hP⟩ := hI.past i h hh
    refine ⟨trialsOf_le hm hW, ?_⟩
    intro sh hsh
    obtain ⟨sc, h1, h2, _, _⟩ := hP sh hsh
    exact ⟨sc, h1, h2⟩

/-- non-vacuity: a concrete schedule (experiment created, suggestion created, two assignments synced, trials created) ends
    with two trials for `maxTrialCount = 2` — the bound is attained -/
example :
    let k : Key2 := { ns := "ns", name := "exp" }
    let cfg : ExpCfg := { goal := none, objType := .maximize, resume := .never, es := false, retain := false, push := false, labels := false }
    let s := run (Sim.init [{ key := k, par := 2, maxT := some 2, maxF := none, cfg := cfg }])
      [.recExp k 100 100 100 {}, .recExp k 100 100 100 {}, .recExp k 100 100 100 {}, .recSug k 100 100 100 100 {} {}, .recSug k 100 100 100 100 {} {},
       .deployReady k, .recSug k 100 100 100 100 {} {}, .recExp k 100 100 100 {}]
    (trialsOf s.cur k).length = 2 := by decide

end Katib.Ctl
