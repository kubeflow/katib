import Katib.Gen.Guards
import Katib.Model.Sidecar
/-!
# C12: the model's `Mutate` takes the full-mutation path, and adds each flag of the collector's command line, exactly under the
# source's path conditions

`Katib/Gen/Guards.lean` (regenerated on every run by `kvh extract guards`) holds the condition under which
`SidecarInjector.Mutate` (pkg/webhook/v1beta1/pod/inject_webhook.go) goes on to build the collector container, and those
under which it then mounts the metrics volume and wraps the training command; and the conditions under which
`getMetricsCollectorArgs` adds each optional flag (second half of the file).
-/
namespace Katib.Gen
open Katib Katib.Pod

theorem C12_mutate_guards_known :
    callCollectorContainerGuardUnknown = [] ∧ callWrapWorkerGuardUnknown = [] ∧ callMetricsVolumeGuardUnknown = [] ∧
    callCollectorContainerGuardSites = 1 ∧ callWrapWorkerGuardSites = 1 ∧ callMetricsVolumeGuardSites = 1 := by decide

/-- the generated guards for a pod / trial pair when no call fails -/
def podG (pod : PodS) (t : Trial)
    (g : Bool → Bool → Bool → Bool → Bool → Bool → Bool → Bool → Bool → Bool → Bool → Bool → Bool → Bool → Bool) : Bool :=
  g false false false false false false t.primaryPodLabels.isSome (!nonPrimary pod t) (decide (t.kind = .push))
    (!hasContainer pod.containers t.primaryContainer) (decide (t.mountPath ≠ "")) (needWrap t.kind) false false

def mutateGen (pod : PodS) (t : Trial) (e : Env) : Except Err PodS :=
  if podG pod t callCollectorContainerGuard then
    match collectorContainer t e with
    | .error x => .error x
    | .ok col =>
      if !e.experimentExists then .error .noExperiment
      else match e.suggestion with
      | none => .error .noSuggestion
      | some (_, checkpoint) => .ok (assemble pod t col checkpoint)
  else if nonPrimary pod t || decide (t.kind = .push) then .ok (lightPod pod t)
  else .error .noPrimaryContainer

/-- the condition of the full mutation when no call fails; `np` = the pod carries other labels than the primary pod's -/
theorem callCollectorContainerGuard_eq (f3 f4 f5 f6 ls np p nc mp nw pn u : Bool) :
    callCollectorContainerGuard false false f3 f4 f5 f6 ls (!np) p nc mp nw pn u = (!(ls && np) && !p && !nc) := by
  simp only [callCollectorContainerGuard, Bool.not_false, Bool.true_and, Bool.not_not]

/-- only a Trial with primary pod labels has non-primary pods -/
theorem labelsSet_and_nonPrimary (pod : PodS) (t : Trial) :
    (t.primaryPodLabels.isSome && nonPrimary pod t) = nonPrimary pod t := by
  unfold nonPrimary
  cases t.primaryPodLabels <;> rfl

/-- **C12_mutate_is_source**: the collector container is built (and the full mutation follows) exactly when the pod is the
    primary pod, the collector is not Push and the primary container exists -/
theorem C12_mutate_is_source (pod : PodS) (t : Trial) (e : Env) : mutate pod t e = mutateGen pod t e := by
  unfold mutate mutateGen podG
  rw [callCollectorContainerGuard_eq, labelsSet_and_nonPrimary]
  cases nonPrimary pod t
  · by_cases hp : t.kind = .push
    · simp only [if_pos hp, decide_eq_true hp]
      rfl
    · simp only [if_neg hp, decide_eq_false hp]
      cases hasContainer pod.containers t.primaryContainer <;> rfl
  · rfl

/-- within the full mutation: the metrics volume is mounted exactly for a non-empty mount path, the training command wrapped
    exactly for the collector kinds that need it — the tests `assemble` makes -/
theorem C12_volume_wrap_guards_are_source (pod : PodS) (t : Trial) (h : podG pod t callCollectorContainerGuard = true) :
    podG pod t callMetricsVolumeGuard = decide (t.mountPath ≠ "") ∧ podG pod t callWrapWorkerGuard = needWrap t.kind := by
  -- both conditions begin with the one of the collector container, `h`
  simp only [podG, callCollectorContainerGuard, Bool.not_false, Bool.true_and] at h
  simp only [podG, callMetricsVolumeGuard, callWrapWorkerGuard, Bool.not_false, Bool.true_and, Bool.and_true, Bool.or_not_self, h,
    and_self]

/-! ## `getMetricsCollectorArgs` -/

theorem C12_args_guards_known :
    argPathGuardUnknown = [] ∧ argFilterGuardUnknown = [] ∧ argFileFormatGuardUnknown = [] ∧ argStdoutFormatGuardUnknown = [] ∧
    argWaitGuardUnknown = [] ∧ argStopRuleGuardUnknown = [] ∧ errNoSuggestionGuardUnknown = [] ∧ argEarlyStopGuardUnknown = [] ∧
    argPathGuardSites = 1 ∧ argFilterGuardSites = 1 ∧ argFileFormatGuardSites = 1 ∧ argStdoutFormatGuardSites = 1 ∧
    argWaitGuardSites = 1 ∧ argStopRuleGuardSites = 1 ∧ errNoSuggestionGuardSites = 1 ∧ argEarlyStopGuardSites = 1 := by decide

/-- the generated guards on a trial's collector spec.  `src fil fmts fsp` are the nil tests the model folds into `filters`
    (non-empty exactly when source, filter and formats are all there) and `fileFormat` (`some` exactly for a File collector
    whose source and file-system path are set) -/
def argsG (t : Trial) (e : Env) (src fil fmts fsp : Bool)
    (g : Bool → Bool → Bool → Bool → Bool → Bool → Bool → Bool → Bool → Bool → Bool → Bool) : Bool :=
  g (decide (t.mountPath ≠ "")) src fil fmts (decide (t.kind = .file)) fsp (decide (t.kind = .stdOut)) e.waitAll.isSome
    (!(t.rules.getD []).isEmpty) e.suggestion.isNone false

def collectorArgsGen (t : Trial) (e : Env) (src fil fmts fsp : Bool) : Except Err (List String) :=
  let G := argsG t e src fil fmts fsp
  if G errNoSuggestionGuard then .error .noSuggestion
  else .ok (["-t", t.name, "-m", t.metricNames, "-o-type", t.objType, "-s-db", e.dbAddr] ++
    (if G argPathGuard then ["-path", t.mountPath] else []) ++
    (if G argFilterGuard then ["-f", ";".intercalate t.filters] else []) ++
    (if G argFileFormatGuard then ["-format", t.fileFormat.getD ""] else []) ++
    (if G argStdoutFormatGuard then ["-format", "TEXT"] else []) ++
    (if G argWaitGuard then ["-w", if e.waitAll.getD false then "true" else "false"] else []) ++
    (if G argStopRuleGuard then (t.rules.getD []).flatMap (fun r => ["-stop-rule", r]) else []) ++
    (if G argEarlyStopGuard then ["-s-earlystop", (e.suggestion.map (·.1)).getD ""] else []))

/-- **C12_args_are_source**: every optional flag of the collector's command line is added under the source's condition, in the
    source's order; the Suggestion lookup (and its error) happens exactly when there are early-stopping rules -/
theorem C12_args_are_source (t : Trial) (e : Env) (src fil fmts fsp : Bool)
    (hf : (!t.filters.isEmpty) = (src && fil && fmts))
    (hff : t.kind = .file → t.fileFormat.isSome = (src && fsp)) :
    collectorArgs t e = collectorArgsGen t e src fil fmts fsp := by
  unfold collectorArgs collectorArgsGen
  extract_lets base a1 a2 a3 a4 a5 rules G
  have h1 : (if G argPathGuard = true then ["-path", t.mountPath] else []) = a1 := by
    simp only [G, argsG, argPathGuard, decide_eq_true_eq, a1]
  have h2 : (if G argFilterGuard = true then ["-f", ";".intercalate t.filters] else []) = a2 := by
    simp only [G, argsG, argFilterGuard, ← hf, a2]
    cases t.filters.isEmpty <;> rfl
  have h3 : (if G argFileFormatGuard = true then ["-format", t.fileFormat.getD ""] else []) = a3 := by
    simp only [G, argsG, argFileFormatGuard, a3]
    by_cases hk : t.kind = .file
    · simp only [hk, decide_true, Bool.true_and, ← hff hk]
      cases t.fileFormat <;> rfl
    · simp only [hk, decide_false, Bool.false_and, Bool.false_eq_true, if_false]
      split
      · contradiction
      · rfl
  have h4 : (if G argStdoutFormatGuard = true then ["-format", "TEXT"] else []) = a4 := by
    simp only [G, argsG, argStdoutFormatGuard, decide_eq_true_eq, a4]
  have h5 : (if G argWaitGuard = true then ["-w", if e.waitAll.getD false = true then "true" else "false"] else []) = a5 := by
    simp only [G, argsG, argWaitGuard, a5]
    cases e.waitAll <;> rfl
  rw [h1, h2, h3, h4, h5]
  simp only [G, argsG, errNoSuggestionGuard, argStopRuleGuard, argEarlyStopGuard]
  cases rules.isEmpty
  · cases e.suggestion
    · rfl
    · rfl
  · simp only [Bool.not_true, Bool.false_and, Bool.false_eq_true, if_false, if_true, List.append_nil]
    rfl

/-- the two hypotheses of `C12_args_are_source` only name how the model's `filters` / `fileFormat` fold the source's nil tests:
    for every trial there are nil-test outcomes that meet them -/
theorem C12_args_hypotheses_satisfiable (t : Trial) :
    ∃ src fil fmts fsp : Bool, (!t.filters.isEmpty) = (src && fil && fmts) ∧ (t.kind = .file → t.fileFormat.isSome = (src && fsp)) :=
  ⟨true, !t.filters.isEmpty, true, t.fileFormat.isSome, by simp, by simp⟩

end Katib.Gen
