import Katib.Gen.Guards
import Katib.Model.Admission
/-!
# C14: the model's name, budget, objective, algorithm and early-stopping errors are raised under the source's path conditions

`Katib/Gen/Guards.lean` (regenerated on every run by `kvh extract guards`) holds the conditions under which
`DefaultValidator.ValidateExperiment` (pkg/webhook/v1beta1/experiment/validator/validator.go) appends the `metadata.name`
error and each of the five budget errors.  The model's `nameErrs` and `budgetErrs` raise each error under exactly that
condition, the atoms read on the model's fields (`*x` under `x != nil`; an unset field makes the dereferencing atom
irrelevant, which the theorem shows by leaving it arbitrary).  The same for the errors of `validateObjective`, `validateAlgorithm`
and `validateEarlyStopping` (the sections below).
-/
namespace Katib.Gen
open Katib Katib.Adm

theorem C14_budget_guards_known :
    errNameGuardUnknown = [] ∧ errMaxFailedNegativeGuardUnknown = [] ∧ errMaxNotPositiveGuardUnknown = [] ∧
    errParNotPositiveGuardUnknown = [] ∧ errMaxFailedAboveMaxGuardUnknown = [] ∧ errParAboveMaxGuardUnknown = [] ∧
    errNameGuardSites = 1 ∧ errMaxFailedNegativeGuardSites = 1 ∧ errMaxNotPositiveGuardSites = 1 ∧
    errParNotPositiveGuardSites = 1 ∧ errMaxFailedAboveMaxGuardSites = 1 ∧ errParAboveMaxGuardSites = 1 := by decide

/-- the generated guards on a name and a budget; `d` is the value a dereference of an unset field would read (never used) -/
def admG (n : String) (b : Budget) (d : Bool)
    (g : Bool → Bool → Bool → Bool → Bool → Bool → Bool → Bool → Bool → Bool → Bool → Bool → Bool → Bool → Bool → Bool → Bool → Bool → Bool) : Bool :=
  g false false false false b.max.isSome false false false (nameRe n.toList) (decide (n.length > 40))
    b.maxFailed.isSome (match b.maxFailed with | some f => decide (f < 0) | none => d)
    (match b.max with | some m => decide (m ≤ 0) | none => d)
    b.parallel.isSome (match b.parallel with | some p => decide (p ≤ 0) | none => d)
    (match b.maxFailed, b.max with | some f, some m => decide (f > m) | _, _ => d)
    (match b.parallel, b.max with | some p, some m => decide (p > m) | _, _ => d) false

theorem C14_name_error_is_source (n : String) (b : Budget) (d : Bool) :
    nameErrs n = if admG n b d errNameGuard then ["I:metadata.name"] else [] := by
  unfold nameErrs nameAdmitted admG errNameGuard
  cases nameRe n.toList <;> by_cases hl : n.length ≤ 40 <;> simp [hl, String.length_toList] <;> omega

theorem C14_budget_errors_are_source (n : String) (b : Budget) (d : Bool) :
    budgetErrs b =
      (if admG n b d errMaxFailedNegativeGuard then ["I:spec.maxFailedTrialCount"] else []) ++
      (if admG n b d errMaxNotPositiveGuard then ["I:spec.maxTrialCount"] else []) ++
      (if admG n b d errParNotPositiveGuard then ["I:spec.parallelTrialCount"] else []) ++
      (if admG n b d errMaxFailedAboveMaxGuard then ["I:spec.maxFailedTrialCount"] else []) ++
      (if admG n b d errParAboveMaxGuard then ["I:spec.parallelTrialCount"] else []) := by
  unfold budgetErrs admG errMaxFailedNegativeGuard errMaxNotPositiveGuard errParNotPositiveGuard errMaxFailedAboveMaxGuard
    errParAboveMaxGuard
  cases b.maxFailed <;> cases b.max <;> cases b.parallel <;> simp

/-! ## `validateObjective` -/

theorem C14_objective_guards_known :
    objMissingGuardUnknown = [] ∧ objTypeGuardUnknown = [] ∧ objMetricGuardUnknown = [] ∧ objAdditionalGuardUnknown = [] ∧
    objMissingGuardSites = 1 ∧ objTypeGuardSites = 1 ∧ objMetricGuardSites = 1 ∧ objAdditionalGuardSites = 1 := by decide

/-- the generated guards on an objective; `d` stands for what a field read through a nil objective would give (never used) -/
def objG (o : Option Objective) (d : Bool) (g : Bool → Bool → Bool → Bool → Bool → Bool → Bool) : Bool :=
  match o with
  | none => g true d d d d false
  | some o => g false (decide (o.typ ≠ "minimize")) (decide (o.typ ≠ "maximize")) (decide (o.metric = ""))
      (o.additional.contains o.metric) false

/-- **C14_objective_errors_are_source**: `validateObjective` returns after the Required error for a nil objective and otherwise
    raises the three field errors under the source's conditions, in the source's order -/
theorem C14_objective_errors_are_source (o : Option Objective) (d : Bool) :
    objectiveErrs o =
      (if objG o d objMissingGuard then ["R:spec.objective"] else []) ++
      (if objG o d objTypeGuard then ["I:spec.objective.type"] else []) ++
      (if objG o d objMetricGuard then ["R:spec.objective.objectiveMetricName"] else []) ++
      (if objG o d objAdditionalGuard then ["I:spec.objective.additionalMetricNames"] else []) := by
  unfold objectiveErrs objG objMissingGuard objTypeGuard objMetricGuard objAdditionalGuard
  cases o <;> simp

/-! ## `validateAlgorithm`, `validateEarlyStopping` -/

theorem C14_algorithm_guards_known :
    algMissingGuardUnknown = [] ∧ algNameEmptyGuardUnknown = [] ∧ algUnknownGuardUnknown = [] ∧ esNameEmptyGuardUnknown = [] ∧
    esUnknownGuardUnknown = [] ∧ algMissingGuardSites = 1 ∧ algNameEmptyGuardSites = 1 ∧ algUnknownGuardSites = 1 ∧
    esNameEmptyGuardSites = 1 ∧ esUnknownGuardSites = 1 := by decide

/-- the generated guards on an algorithm / early-stopping spec (`known` = the katib-config lookup succeeds) -/
def algG (a : Option String) (known d : Bool) (g : Bool → Bool → Bool → Bool → Bool) : Bool :=
  match a with
  | none => g true d d false
  | some n => g false (decide (n = "")) (!known) false

theorem C14_algorithm_errors_are_source (a : Option String) (known d : Bool) :
    algorithmErrs a known =
      (if algG a known d algMissingGuard then ["R:spec.algorithm"] else []) ++
      (if algG a known d algNameEmptyGuard then ["R:spec.algorithm.algorithmName"] else []) ++
      (if algG a known d algUnknownGuard then ["I:spec.algorithm.algorithmName"] else []) := by
  unfold algorithmErrs algG algMissingGuard algNameEmptyGuard algUnknownGuard
  cases a <;> cases known <;> simp

/-- **C14_early_stopping_errors_are_source**: a nil early-stopping spec raises nothing -/
theorem C14_early_stopping_errors_are_source (a : Option String) (known d : Bool) :
    earlyStoppingErrs a known =
      (if algG a known d esNameEmptyGuard then ["R:spec.earlyStopping.algorithmName"] else []) ++
      (if algG a known d esUnknownGuard then ["I:spec.earlyStopping.algorithmName"] else []) := by
  unfold earlyStoppingErrs algG esNameEmptyGuard esUnknownGuard
  cases a <;> cases known <;> simp

end Katib.Gen
