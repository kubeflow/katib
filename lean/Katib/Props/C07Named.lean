import Katib.Props.C06World
/-!
# C07 over whole schedules: every run object carries the key (namespace and name) of a Trial

`C07_named_as_trial`: for every list of simulator operations in which nobody deletes Trials, every run object of the current
store has the key of a Trial of the current store.  The trial controller creates a run object only under the key of the Trial
it read (`TrialCall.jobCreate`), Trials never disappear (`TPast`), and nobody else creates run objects.
-/
namespace Katib.Ctl
open Katib Katib.Exp

def JT (w : World) : Prop := ∀ j ∈ w.jobs, (findTrial w j.key).isSome = true

def JN (hT : World) : Call → Prop
  | .jobCreate k => (findTrial hT k).isSome = true
  | _ => True

theorem tpast_isSome {a b : World} (h : TPast a b) {k : Key2} (hk : (findTrial a k).isSome = true) : (findTrial b k).isSome = true := by
  obtain ⟨t, ht⟩ := Option.isSome_iff_exists.1 hk
  obtain ⟨tc, htc, _⟩ := h k t ht
  rw [htc]; rfl

theorem jt_of {w w' : World} (hP : TPast w w') (h : JT w)
    (hsub : ∀ j ∈ w'.jobs, (∃ j0 ∈ w.jobs, j0.key = j.key) ∨ (findTrial w j.key).isSome = true) : JT w' := by
  intro j hj
  rcases hsub j hj with ⟨j0, hj0, hk⟩ | hk
  · rw [← hk]; exact tpast_isSome hP (h j0 hj0)
  · exact tpast_isSome hP hk

theorem exec_named {hT w0 : World} (f : Faults) (p : Prog) (hp : p.All (fun c => TJust hT c ∧ JN hT c))
    (hW : TInv w0) (hP : TPast hT w0) (hJ : JT w0) : JT (exec f p w0 0 []).w := by
  refine (exec_rel (I := fun w => TInv w ∧ JT w) TPast.refl TPast.trans ?_ f hp ⟨hW, hJ⟩).1.2
  intro w c w' hI hR hc h
  obtain ⟨h1, h2⟩ := apply_pres_trial hI.1 (TPast.trans hP hR) hc.1 h
  refine ⟨⟨h1, jt_of h2 hI.2 fun j hj => ?_⟩, h2⟩
  rcases applyCall_jobs_cases h with h' | ⟨k, rfl, _, rfl⟩ | ⟨k, _, _, rfl⟩
  · exact Or.inl ⟨j, h' ▸ hj, rfl⟩
  · rcases List.mem_append.1 hj with hj | hj
    · exact Or.inl ⟨j, hj, rfl⟩
    · cases List.mem_singleton.1 hj
      exact Or.inr (tpast_isSome (TPast.trans hP hR) hc.2)
  · exact Or.inl ⟨j, (List.mem_filter.1 hj).1, rfl⟩

theorem Plan.jn {v hT : World} {now : Nat} {p : Prog} (hp : Plan v now p) (htr : v.trials = hT.trials) : p.All (JN hT) := by
  cases hp with
  | exp k => exact expPlan_all fun _ _ _ hc => by cases hc <;> trivial
  | sug k env => exact sugPlan_all fun _ _ _ hc => by cases hc <;> trivial
  | trial k =>
    exact trialPlan_all fun t ht _ hc => by
      cases hc with
      | jobCreate _ _ _ =>
        show (findTrial hT t.key).isSome = true
        rw [← findTrial_congr htr, findTrial_key ht, ht]
        rfl
      | _ => trivial

/-- on top of `verdictSched`: every run object has the key of a Trial -/
theorem namedSched : Sched (fun op => ∀ k, op ≠ .userDelete k) (fun _ w => (TInv w ∧ KInv w) ∧ JT w)
    (fun a b => TPast a b ∧ True) :=
  verdictSched.extend (I' := fun _ => JT) id (fun _ => trivial) (fun _ _ => trivial) (fun _ h => h)
    (plan := by
      intro s p f vE vT vS vD hp hI _
      obtain ⟨⟨⟨hWT, _⟩, _⟩, hPT, _⟩ := hI.snap vT
      exact ⟨exec_named f p ((hp.tjust (assemble_trials ..) hWT).and (hp.jn (assemble_trials ..))) hI.cur.1.1 hPT hI.cur.2, trivial⟩)
    (env := by
      intro s op _ hop hI hT
      refine ⟨jt_of hT.2 hI.cur.2 fun j hj => Or.inl ?_, trivial⟩
      rcases stepWorld_jobs_cases hop with h | ⟨_, _, h⟩ | ⟨_, _, _, _, h⟩
      · exact ⟨j, h ▸ hj, rfl⟩
      · rw [h] at hj
        obtain ⟨j0, hj0, rfl⟩ := List.mem_map.1 hj
        exact ⟨j0, hj0, by split <;> rfl⟩
      · rw [h] at hj
        exact ⟨j, (List.mem_filter.1 hj).1, rfl⟩)

/-- **C07_named_as_trial**: over every schedule without Trial deletions, every run object has the namespace and name of a
    Trial that exists. -/
theorem C07_named_as_trial (es : List ExpInit) (ops : List Op) (hops : ∀ op ∈ ops, ∀ k, op ≠ .userDelete k) :
    ∀ j ∈ (run (Sim.init es) ops).cur.jobs, ∃ t, findTrial (run (Sim.init es) ops).cur j.key = some t := by
  have hI := namedSched.run_init es hops ⟨verdict_init es, fun _ hj => nomatch hj⟩
  intro j hj
  exact Option.isSome_iff_exists.1 (hI.cur.2 j hj)

end Katib.Ctl
