import Katib.Props.C07Guards
/-!
# The model's experiment reconcile is the source's, rebuilt from regenerated path conditions

`Katib/Gen/Guards.lean` (regenerated on every run by `kvh extract guards`) holds the conditions under which
`ReconcileExperiment.Reconcile` (pkg/controller.v1beta1/experiment/experiment_controller.go) reaches
`MarkExperimentStatusRestarting`, `cleanupSuggestionResources`, `restartSuggestion`, `ReconcileExperiment` and
`MarkExperimentStatusCreated`, and under which `cleanupSuggestionResources` / `restartSuggestion` go on to change the
Suggestion.  `expPlanGen` puts the model's steps behind exactly these conditions (no call fails, no finalizer update is due);
the hand-written `expPlan` is that function, for every store, key and time.
-/
namespace Katib.Gen
open Katib Katib.Ctl Katib.Exp

def expPlanGen (v : World) (k : Key2) (now : Nat) : Prog :=
  match findExp v k with
  | none => .done .ok
  | some e =>
    -- finalizer: added for a live Experiment without it, removed for one under deletion that holds it (`needUpdateFinalizers`)
    let F (g : Bool → Bool → Bool → Bool → Bool) : Bool := g e.deleted e.fin false false
    if F expAddFinalizerGuard then .step (.expUpdateFin k e.rv true) (.done .requeue) (.done .err)
    else if F expRemoveFinalizerGuard then .step (.expUpdateFin k e.rv false) (.done .requeue) (.done .err)
    else
      let sug := findSug v k
      let G (g : Bool → Bool → Bool → Bool → Bool → Bool → Bool → Bool → Bool → Bool → Bool → Bool → Bool → Bool → Bool → Bool → Bool) : Bool :=
        g false false false (isCompleted e.st.conds) (e.cfg.resume == .never) (e.cfg.resume == .fromVolume)
          (restartable e.st.conds e.cfg.resume) e.maxT.isSome
          (match e.maxT with | some m => decide (m > (e.st.trials : Int)) | none => false) (e.st.trials != 0)
          (cnt e.st.counts 4 != 0) (Cond.has e.st.conds .created) false false false false
      let cleanupBody (next : Prog) : Prog :=
        match sug with
        | none => next
        | some s =>
          if sugCleanupGuard false false (sCompleted s) (sRestarting s) false false false false false then
            .step (.sugStatus k s.rv { s.st with conds := sugMarkSucceeded s.st.conds rSugExpSucceeded now }) next (.done .err)
          else next
      let restartBody (next : Prog) : Prog :=
        match sug with
        | none => next
        | some s =>
          if sugRestartGuard false false false (sRestarting s) false false false then
            .step (.sugStatus k s.rv { s.st with conds := sugMarkRunning s.st.conds false rSugRestart now }) next (.done .err)
          else next
      let st1 : ExpSt := if G markRestartingGuard then { e.st with conds := markRestarting e.st.conds now } else e.st
      let main : Prog := if G callReconcileExperimentGuard || G markCreatedGuard then expMain v e st1 now else .done .ok
      let r : Prog := if G callRestartGuard then restartBody main else main
      if G callCleanupGuard then cleanupBody r else r

/-- the translator met only conditions it knows and exactly one call site each -/
theorem C03_reconcile_guards_known :
    markRestartingGuardUnknown = [] ∧ callCleanupGuardUnknown = [] ∧ callRestartGuardUnknown = [] ∧
    callReconcileExperimentGuardUnknown = [] ∧ markCreatedGuardUnknown = [] ∧
    markRestartingGuardSites = 1 ∧ callCleanupGuardSites = 1 ∧ callRestartGuardSites = 1 ∧
    callReconcileExperimentGuardSites = 1 ∧ markCreatedGuardSites = 1 ∧
    expAddFinalizerGuardUnknown = [] ∧ expRemoveFinalizerGuardUnknown = [] ∧ expCallUpdateFinalizersGuardUnknown = [] ∧
    expAddFinalizerGuardSites = 1 ∧ expRemoveFinalizerGuardSites = 1 ∧ expCallUpdateFinalizersGuardSites = 1 := by decide

theorem ite_bnot {α : Sort _} (b : Bool) (x y : α) : (if (!b) = true then x else y) = if b = true then y else x := by
  cases b <;> rfl

theorem expAddFinalizerGuard_eq (d f k u : Bool) : expAddFinalizerGuard d f k u = (!d && !f) := by
  cases d <;> rfl

theorem expRemoveFinalizerGuard_eq (d f k u : Bool) : expRemoveFinalizerGuard d f k u = (d && f) := by
  cases d <;> cases f <;> rfl

/-- the restart test of `Reconcile` over the atoms of the generated guards -/
theorem restartGuard_atoms (e : ExpO) :
    (restartable e.st.conds e.cfg.resume &&
      (e.maxT.isSome && (match e.maxT with | some m => decide (m > (e.st.trials : Int)) | none => false) ||
        !e.maxT.isSome && e.st.trials != 0)) = restartGuard e := by
  unfold restartGuard
  cases e.maxT <;> simp

section
/-! The conditions of `Reconcile` when no call fails and no finalizer update is due: `c` = completed, `n` / `f` = the resume policy
    is Never / FromVolume, `hr` = there are running Trials, and `rs` names the restart test, so that a proof can go by its value. -/
variable {r ms ma tz rs : Bool} (h : (r && (ms && ma || !ms && tz)) = rs) (nf c n f hr cr a b d u : Bool)

theorem callCleanupGuard_eq : callCleanupGuard false nf false c n f r ms ma tz hr cr a b d u = (c && (n || f)) := rfl

include h

theorem markRestartingGuard_eq : markRestartingGuard false nf false c n f r ms ma tz hr cr a b d u = (c && rs) := by
  subst h
  cases c <;> cases n <;> cases f <;> rfl

theorem callRestartGuard_eq : callRestartGuard false nf false c n f r ms ma tz hr cr a b d u = (c && rs && f) := by
  subst h
  cases c <;> cases n <;> cases f <;> rfl

/-- `ReconcileExperiment` and `MarkExperimentStatusCreated` lie under the same condition, on the two sides of "Created" -/
theorem reconcileOrCreatedGuard_eq :
    (callReconcileExperimentGuard false nf false c n f r ms ma tz hr cr a b d u ||
      markCreatedGuard false nf false c n f r ms ma tz hr cr a b d u) = (!c || rs || hr) := by
  simp only [callReconcileExperimentGuard, markCreatedGuard, h, Bool.not_false, Bool.not_not, Bool.and_true, Bool.true_and,
    Bool.or_not_self, ← Bool.and_or_distrib_left]
  cases c <;> cases rs <;> cases hr <;> rfl

end

theorem C03_reconcile_is_source (v : World) (k : Key2) (now : Nat) : expPlan v k now = expPlanGen v k now := by
  unfold expPlan expPlanGen
  cases findExp v k with
  | none => rfl
  | some e =>
    -- the local definitions of both sides are kept as local definitions: unfolded in place they multiply
    dsimp -zeta only
    extract_lets sug cleanup src st1 restart F G cleanupBody restartBody st1g main r
    simp only [F, expAddFinalizerGuard_eq, expRemoveFinalizerGuard_eq]
    refine ite_congr rfl (fun _ => rfl) fun _ => ite_congr rfl (fun _ => rfl) fun _ => ?_
    have hrs := restartGuard_atoms e
    have hcl (next : Prog) :
        cleanup next = if (e.cfg.resume == .never || e.cfg.resume == .fromVolume) = true then cleanupBody next else next := by
      simp only [cleanup, cleanupBody, (C16_cleanup_restart_guards_are_source ..).1, ite_bnot, Bool.or_eq_true, beq_iff_eq]
      rfl
    have hre (next : Prog) : restart next = if (e.cfg.resume == .fromVolume) = true then restartBody next else next := by
      simp only [restart, restartBody, (C16_cleanup_restart_guards_are_source _ _ _ _ false false).2, ite_bnot, beq_iff_eq]
      rfl
    simp only [r, main, st1g, G, markRestartingGuard_eq hrs, callCleanupGuard_eq, callRestartGuard_eq hrs,
      reconcileOrCreatedGuard_eq hrs, hcl, hre]
    cases isCompleted e.st.conds
    · simp
    · cases restartGuard e
      · by_cases hz : cnt e.st.counts 4 = 0
        · simp [hz]
        · simp [hz]
      · simp
        rfl

/-! ## `ReconcileExperiment` and `ReconcileTrials` -/

def expReconcileTrialsGen (v : World) (e : ExpO) (st : ExpSt) (ts : List TrialO) (now : Nat) : Prog :=
  let G (g : Bool → Bool → Bool → Bool → Bool → Bool → Bool → Bool → Bool → Bool → Bool → Bool) : Bool :=
    g false (!ts.isEmpty) (isCompleted st.conds) (decide (activeCount st > e.par)) (decide (activeCount st < e.par))
      (decide (activeCount st > e.par)) (decide (addCount e st > 0)) false e.maxT.isSome false false
  if G callDeleteTrialsGuard then .done .err          -- deleteTrials: not modelled further (DESIGN §10)
  else if G callCreateTrialsGuard then expCreateTrials v e st ts (addCount e st) now
  else expFinish e st

def expMainGen (v : World) (e : ExpO) (st : ExpSt) (now : Nat) : Prog :=
  if !Cond.has st.conds .created then
    expFinish e { st with started := true, conds := Cond.set st.conds .created true rCreated now }
  else
    let ts := trialsOf v e.key
    let G (completed : Bool) (g : Bool → Bool → Bool → Bool → Bool → Bool → Bool → Bool → Bool → Bool → Bool → Bool) : Bool :=
      g false (!ts.isEmpty) completed false false false false false e.maxT.isSome false false
    let st1 := if G false callUpdateStatusGuard then expUpdateStatus e st ts now else st
    if G (isCompleted st1.conds) callReconcileTrialsGuard then expReconcileTrialsGen v e st1 ts now else expFinish e st1

theorem C01_guards_known :
    callUpdateStatusGuardUnknown = [] ∧ callReconcileTrialsGuardUnknown = [] ∧ callDeleteTrialsGuardUnknown = [] ∧
    callCreateTrialsGuardUnknown = [] ∧ callUpdateStatusGuardSites = 1 ∧ callReconcileTrialsGuardSites = 1 ∧
    callDeleteTrialsGuardSites = 1 ∧ callCreateTrialsGuardSites = 1 := by decide

/-- **C01_reconcile_trials_is_source**: the model's `ReconcileTrials` decision (delete / create / nothing) is the source's -/
theorem C01_reconcile_trials_is_source (v : World) (e : ExpO) (st : ExpSt) (ts : List TrialO) (now : Nat) :
    expReconcileTrials v e st ts now = expReconcileTrialsGen v e st ts now := by
  unfold expReconcileTrials expReconcileTrialsGen callDeleteTrialsGuard callCreateTrialsGuard
  by_cases h1 : activeCount st > e.par
  · simp [h1]
  · by_cases h2 : activeCount st < e.par
    · -- `createTrials` lies under its own test `addCount > 0`, the same on both sides
      simp [h1, h2]
    · simp [h1, h2]

/-- **C01_reconcile_experiment_is_source**: the model's `ReconcileExperiment` (status refresh only for a non-empty Trial list,
    Trials reconciled only while there is no verdict) is the source's -/
theorem C01_reconcile_experiment_is_source (v : World) (e : ExpO) (st : ExpSt) (now : Nat) :
    expMain v e st now = expMainGen v e st now := by
  unfold expMain expMainGen
  simp only [C01_reconcile_trials_is_source]
  cases Cond.has st.conds .created
  · rfl
  · cases (trialsOf v e.key).isEmpty <;> rfl

/-! ## `ReconcileSuggestions` (inside `createTrials`) -/

def expCreateTrialsGen (v : World) (e : ExpO) (st : ExpSt) (ts : List TrialO) (add : Int) (now : Nat) : Prog :=
  let current : Int := ts.length
  let ies : Int := (ts.filter (fun t => !obsAvailable t.st && tHas t .earlyStopped)).length
  let req := current + add - ies
  match findSug v e.key with
  | none =>
    .step (.sugCreate { key := e.key, requests := req, resume := e.cfg.resume, es := e.cfg.es }) (expFinish e st) (.done .err)
  | some s =>
    let G (g : Bool → Bool → Bool → Bool → Bool → Bool → Bool → Bool → Bool) : Bool :=
      g false false true (sHas s .failed) (decide (s.requests ≠ req)) (decide ((s.st.names.length : Int) > current)) false false
    if G markExpFailedBySugGuard then expFinish e { st with conds := markFailed st.conds rFailed now }
    else
      let assignments := if (s.st.names.length : Int) > current
        then s.st.names.filter (fun n => !(ts.any (fun t => t.key.name = n))) else []
      let creates := assignments.foldr (fun a k => Prog.step (.trialCreate (mkTrial e a)) k k) (expFinish e st)
      if G callUpdateSuggestionGuard then .step (.sugUpdateReq e.key s.rv req) creates (.done .err) else creates

theorem C01_reconcile_suggestions_guards_known :
    markExpFailedBySugGuardUnknown = [] ∧ callUpdateSuggestionGuardUnknown = [] ∧
    markExpFailedBySugGuardSites = 1 ∧ callUpdateSuggestionGuardSites = 1 := by decide

/-- **C01_reconcile_suggestions_is_source**: a failed Suggestion fails the Experiment, otherwise `spec.requests` is rewritten
    exactly when it differs from the number wanted -/
theorem C01_reconcile_suggestions_is_source (v : World) (e : ExpO) (st : ExpSt) (ts : List TrialO) (add : Int) (now : Nat) :
    expCreateTrials v e st ts add now = expCreateTrialsGen v e st ts add now := by
  unfold expCreateTrials expCreateTrialsGen markExpFailedBySugGuard callUpdateSuggestionGuard
  cases findSug v e.key with
  | none => rfl
  | some s =>
    dsimp only
    cases sHas s .failed <;> simp

end Katib.Gen
