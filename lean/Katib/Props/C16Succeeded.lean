import Katib.Lemmas.ExpPlan
import Katib.Lemmas.SugPlan
import Katib.Lemmas.SugSt
/-!
# C16 over whole schedules: a Suggestion is Succeeded only if its Experiment has carried a verdict

`C16_succeeded_only_after_verdict`: for every list of simulator operations (no hypothesis on the schedule): if the
Suggestion of `k` is Succeeded in the current store, then in some snapshot of the history the Experiment `k` carried a
Succeeded or Failed verdict.  The experiment controller marks the Suggestion Succeeded only in its clean-up for a completed
Experiment (`ExpCall.cleanup`: the *viewed* Experiment is completed — and every view is a snapshot of the history), the
suggestion controller never writes a status containing Succeeded (`SugWrites.nosucc`), nobody else writes Suggestion statuses.
That last part is `sugStSched` (Lemmas/SugSt.lean), for any property of the status of one Suggestion.
-/
namespace Katib.Ctl
open Katib Katib.Exp

def EverCompleted (hs : Array World) (k : Key2) : Prop :=
  Ever hs fun h => ∃ e, findExp h k = some e ∧ isCompleted e.st.conds = true

def UOk (hs : Array World) (k : Key2) (st : SugSt) : Prop := Cond.has st.conds .succeeded = true → EverCompleted hs k

theorem expPlan_ujust (hs : Array World) (k : Key2) (v : World) (k' : Key2) (now : Nat)
    (hview : ∀ e, findExp v k = some e → isCompleted e.st.conds = true → EverCompleted hs k) :
    (expPlan v k' now).All (SugStJust (UOk hs k) k) :=
  expPlan_all fun e he c hc => by
    have hk : e.key = k → findExp v k = some e := fun hk => by rw [← hk, findExp_key he]; exact he
    cases hc with
    | cleanup hc _ _ _ => exact fun h _ => hview e (hk h) hc
    | restart hc _ _ _ _ => exact fun h _ => hview e (hk h) hc
    | sugCreate _ _ => exact fun _ => nofun
    | _ => trivial

theorem sugPlan_ujust (hs : Array World) (k : Key2) (v : World) (k' : Key2) (env : SugEnv) (now : Nat) :
    (sugPlan v k' env now).All (SugStJust (UOk hs k) k) :=
  sugPlan_all fun _ _ _ hc => by
    cases hc with
    | status hw _ => exact fun _ h => by rw [hw.nosucc] at h; cases h
    | _ => trivial

/-- over every schedule: a Succeeded Suggestion `k` has a snapshot in which Experiment `k` is completed; the Experiment an
    experiment reconcile reads is the one of a snapshot -/
theorem succSched (k : Key2) : Sched (fun _ => True) (fun hs w => SugStInv (UOk hs k) k w) (fun _ _ => True) :=
  sugStSched (P := fun hs => UOk hs k) k (fun w' h hsucc => (h hsucc).push w')
    (fun {s} vE _ _ _ k' hI => expPlan_ujust s.hist k _ k' _ fun e he hc => hI.ever_snap vE ⟨e, findExp_assemble .. ▸ he, hc⟩)
    (fun {s} _ _ _ _ k' env _ => sugPlan_ujust s.hist k _ k' env _)

/-- **C16_succeeded_only_after_verdict**: over every schedule (no hypothesis): if the Suggestion of `k` is Succeeded, some
    snapshot of the history shows the Experiment `k` with a Succeeded or Failed verdict. -/
theorem C16_succeeded_only_after_verdict (k : Key2) (es : List ExpInit) (ops : List Op) :
    let s := run (Sim.init es) ops
    ∀ sg, findSug s.cur k = some sg → sHas sg .succeeded = true →
      ∃ (i : Nat) (h : World) (e : ExpO), s.hist[i]? = some h ∧ findExp h k = some e ∧ isCompleted e.st.conds = true := by
  intro s sg hsg hsucc
  obtain ⟨i, h, hi, e, he, hc⟩ :=
    ((succSched k).run_init es (fun _ _ => trivial) (fun _ h => nomatch h)).cur sg hsg hsucc
  exact ⟨i, h, e, hi, he, hc⟩

end Katib.Ctl
