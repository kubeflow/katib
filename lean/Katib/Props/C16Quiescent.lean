import Katib.Props.C03Frozen
import Katib.Props.C04Quiescent
/-!
# C16 at quiescence: after completion under Never / FromVolume the algorithm service is gone

`C16_quiescent_cleanup`: for **every** store (not only reachable ones) in which neither the experiment controller nor the
suggestion controller has a write to issue (plans computed on live reads), the Suggestion of an Experiment that carries a verdict
under resume policy Never or FromVolume (holds its finalizer and is not under deletion), if there is one, is completed (Succeeded or
Failed) or restarting; and when it is Succeeded,
neither the algorithm Deployment nor its Service exists any more.  (The experiment controller's clean-up step is a write as
long as the Suggestion is neither; the suggestion controller's plan for a Succeeded Suggestion consists of the two deletes.)
Under LongRunning the service is kept: `C16_longrunning_service_kept`.
-/
namespace Katib.Ctl
open Katib Katib.Exp

/-- `cleanupSuggestionResources` has its write to issue unless the Suggestion is completed or restarting -/
theorem nw_expCleanup {v : World} {k : Key2} {e : ExpO} {now : Nat} {next : Prog} {s : SugO}
    (hr : e.cfg.resume = .never ∨ e.cfg.resume = .fromVolume) (hs : findSug v k = some s)
    (q : (expCleanup v k e now next).noWrites) : (sCompleted s || sRestarting s) = true := by
  unfold expCleanup at q
  rw [if_pos hr, hs] at q
  cases hcs : (sCompleted s || sRestarting s) with
  | true => rfl
  | false =>
    simp only [hcs] at q
    exact (nw_write q rfl).elim

theorem exp_quiescent_cleanup (w : World) (k : Key2) (now : Nat) (e : ExpO) (s : SugO)
    (he : findExp w k = some e) (hs : findSug w k = some s) (hd : e.deleted = false) (hf : e.fin = true)
    (hc : isCompleted e.st.conds = true) (hr : e.cfg.resume = .never ∨ e.cfg.resume = .fromVolume)
    (q : (expPlan w k now).noWrites) : (sCompleted s || sRestarting s) = true := by
  rw [expPlan_eq now he, hd, hf, hc] at q
  -- whichever of the three cases applies, the clean-up comes first
  rw [← apply_ite (expCleanup w k e now), ← apply_ite (expCleanup w k e now)] at q
  exact nw_expCleanup hr hs q

/-- the suggestion controller still has a delete to issue for a Succeeded Suggestion whose Deployment or Service exists -/
theorem sug_quiescent_removed (w : World) (k : Key2) (now : Nat) (s : SugO) (hs : findSug w k = some s)
    (hS : sHas s .succeeded = true) (q : (sugPlan w k {} now).noWrites) :
    (findDeploy w (infraKey k)).isSome = false ∧ w.svcs.contains (infraKey k) = false := by
  rw [sugPlan_eq {} now hs, if_pos hS, Prog.noWrites_iff, all_sugTeardown] at q
  exact ⟨Bool.eq_false_iff.2 fun h => Bool.noConfusion (q.1 h), Bool.eq_false_iff.2 fun h => Bool.noConfusion (q.2 h)⟩

theorem C16_quiescent_cleanup (w : World) (k : Key2) (now : Nat) (e : ExpO) (s : SugO)
    (he : findExp w k = some e) (hs : findSug w k = some s) (hd : e.deleted = false) (hf : e.fin = true)
    (hc : isCompleted e.st.conds = true) (hr : e.cfg.resume = .never ∨ e.cfg.resume = .fromVolume)
    (qE : (expPlan w k now).noWrites) (qS : (sugPlan w k {} now).noWrites) :
    (sCompleted s || sRestarting s) = true ∧
    (sHas s .succeeded = true → (findDeploy w (infraKey k)).isSome = false ∧ w.svcs.contains (infraKey k) = false) :=
  ⟨exp_quiescent_cleanup w k now e s he hs hd hf hc hr qE, fun hS => sug_quiescent_removed w k now s hs hS qS⟩

/-! Non-vacuity: the schedule of `Props/C03Frozen.lean` (one Trial, resume policy Never, completed, budget raised afterwards)
followed by a few more reconciles ends in a store that meets every hypothesis of `C16_quiescent_cleanup`: both plans are
write-free, the Suggestion is Succeeded and Deployment and Service are gone. -/
def cleanupOps : List Op :=
  frozenOps ++ [.recSug frozenKey 100 100 100 100 {} {}, .recSug frozenKey 100 100 100 100 {} {}, .recExp frozenKey 100 100 100 {},
    .recSug frozenKey 100 100 100 100 {} {}]

example :
    (expPlan (run (Sim.init [frozenExp]) cleanupOps).cur frozenKey 99).noWrites ∧
    (sugPlan (run (Sim.init [frozenExp]) cleanupOps).cur frozenKey {} 99).noWrites ∧
    (findSug (run (Sim.init [frozenExp]) cleanupOps).cur frozenKey).map (fun s => sHas s .succeeded) = some true ∧
    (findExp (run (Sim.init [frozenExp]) cleanupOps).cur frozenKey).map (fun e => (e.fin, e.deleted, isCompleted e.st.conds)) = some (true, false, true) ∧
    (findDeploy (run (Sim.init [frozenExp]) cleanupOps).cur (infraKey frozenKey)).isSome = false := by decide

end Katib.Ctl
