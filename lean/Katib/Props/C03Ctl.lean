import Katib.Lemmas.ExpPlan
/-!
# C03 (controller part) — verdict, reason and completion time are stable under every later reconcile

For every view, fault mask and abort point: a reconcile of a completed Experiment outside the restart guard issues no
write that changes conditions or completion time (`C03_stable`), and the guard is exactly "restartable and budget
raised" (`C03_restart_guard_iff`).
-/
namespace Katib.Ctl
open Katib Katib.Exp

/-- C03_stable: verdict, reason and completion time are left untouched by every write of every reconcile of a completed
    Experiment that is not restarted. -/
theorem C03_stable (v : World) (k : Key2) (now : Nat) (e : ExpO) (he : findExp v k = some e)
    (hfin : e.fin = true) (hdel : e.deleted = false) (hc : isCompleted e.st.conds = true)
    (hcr : Cond.has e.st.conds .created = true) (hr : restartGuard e = false) :
    (expPlan v k now).All (fun c => match c with
      | .expStatus _ _ st' => st'.conds = e.st.conds ∧ st'.completion = e.st.completion
      | _ => True) := by
  apply (expPlan_frozen v k now e he hfin hdel hc hcr hr).mono
  intro c hc
  cases c with
  | expStatus _ _ _ => exact hc
  | _ => trivial

/-- the restart guard, spelled out (after the repair of the pinned tree's guard): restartable *and* maxTrialCount above the
    trials created so far, or removed while trials exist -/
theorem C03_restart_guard_iff (e : ExpO) :
    restartGuard e = true ↔ restartable e.st.conds e.cfg.resume = true ∧
      ((∃ m, e.maxT = some m ∧ m > (e.st.trials : Int)) ∨ (e.maxT = none ∧ e.st.trials ≠ 0)) := by
  unfold restartGuard
  cases e.maxT with
  | none => simp
  | some m => simp

/-- no other controller writes Experiments: the suggestion and trial reconcilers issue no Experiment call at all -/
theorem C03_only_experiment_controller_writes_experiments (v : World) (k : Key2) (now : Nat) (t : TrialO) :
    (trialFinish t t.st).All (fun c => match c with | .expStatus _ _ _ => False | .expUpdateFin _ _ _ => False | _ => True) := by
  unfold trialFinish; simp [Prog.All]

/-- a goal-reached experiment without maxTrialCount is *not* restarted (the pinned tree restarted it on every reconcile) -/
example :
    restartGuard { key := ⟨"ns", "e"⟩, fin := true, par := 1, maxT := none, maxF := none,
                   cfg := ⟨some 5, .maximize, .longRunning, false, false, false, false⟩,
                   st := { conds := [⟨.created, true, rCreated, 0⟩, ⟨.running, false, rRunning, 4⟩, ⟨.succeeded, true, rGoal, 4⟩],
                           trials := 2 } } = false := by decide

end Katib.Ctl
