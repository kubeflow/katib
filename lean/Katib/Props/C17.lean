import Katib.Model.Composer
/-!
# C17 — Generated algorithm-service resources are mutually consistent and reachable

Theorems about `Katib.Comp.desiredDeployment / desiredService / …` for every Suggestion and every katib-config entry.
-/
namespace Katib.Comp

theorem desiredDeployment_some {s : Sug} {c : Cfg} {d : Deployment} (h : desiredDeployment s c = some d) :
    d = { name := resName s, ns := s.ns, selector := suggestionLabels s, podLabels := suggestionLabels s,
          containers := containers s c,
          serviceAccount := if hasES s ∧ c.serviceAccountName = "" then resName s else c.serviceAccountName,
          volumes := if s.resume = .fromVolume then [(volumeName, resName s)] else [] } := by
  unfold desiredDeployment at h
  split at h
  · cases h
  · exact (Option.some.inj h).symm

/-- C17_selector: the Service selects exactly the Deployment's pods (selector = pod template labels = deployment selector). -/
theorem C17_selector (s : Sug) (c : Cfg) (d : Deployment) (h : desiredDeployment s c = some d) :
    (desiredService s).selector = d.podLabels ∧ d.selector = d.podLabels := by
  cases desiredDeployment_some h
  exact ⟨rfl, rfl⟩

/-- C17_ports: the Service exposes the suggestion port, and the early-stopping port iff early stopping is configured. -/
theorem C17_ports (s : Sug) :
    (desiredService s).ports = (suggestionPortName, suggestionPort) :: (if hasES s then [(earlyStoppingPortName, earlyStoppingPort)] else []) := rfl

/-- C17_endpoint: the controllers dial `<service>.<namespace>:port` of a port the Service exposes. -/
theorem C17_endpoint (s : Sug) :
    (algorithmEndpoint s).1 = (desiredService s).name ++ "." ++ (desiredService s).ns ∧
    (desiredService s).ports.any (fun p => p.2 = (algorithmEndpoint s).2) = true ∧
    (earlyStoppingEndpoint s).1 = (desiredService s).name ++ "." ++ (desiredService s).ns ∧
    (hasES s = true → (desiredService s).ports.any (fun p => p.2 = (earlyStoppingEndpoint s).2) = true) := by
  refine ⟨rfl, by simp [desiredService, algorithmEndpoint], rfl, ?_⟩
  intro h
  simp [desiredService, earlyStoppingEndpoint, h]

/-- C17_listening: a container of the pod declares every port the Service exposes. -/
theorem C17_listening (s : Sug) (c : Cfg) (d : Deployment) (h : desiredDeployment s c = some d) :
    ∀ p ∈ (desiredService s).ports, ∃ ct ∈ d.containers, ∃ q ∈ ct.ports, q.2 = p.2 := by
  cases desiredDeployment_some h
  intro p hp
  rcases List.mem_cons.mp hp with rfl | hp
  · exact ⟨mainContainer s c, List.mem_cons_self, _, List.mem_append_right _ (List.mem_singleton_self _), rfl⟩
  · cases hes : hasES s with
    | false => rw [hes] at hp; cases hp
    | true =>
      rw [hes] at hp
      cases List.mem_singleton.mp hp
      exact ⟨esContainer, by simp [containers, hes], _, List.mem_singleton_self _, rfl⟩

/-- the reserved port is never declared twice by the suggestion container: a config that names it is rejected -/
theorem C17_reserved_port_rejected (s : Sug) (c : Cfg) (p : String × Int) (hp : p ∈ c.ports)
    (h : p.1 = suggestionPortName ∨ p.2 = suggestionPort) : desiredDeployment s c = none := by
  unfold desiredDeployment
  exact if_pos (List.any_eq_true.mpr ⟨p, hp, decide_eq_true h⟩)

/-- C17_volume: with FromVolume the pod mounts the generated claim in the suggestion container. -/
theorem C17_volume (s : Sug) (c : Cfg) (d : Deployment) (h : desiredDeployment s c = some d) (hv : s.resume = .fromVolume) :
    d.volumes = [(volumeName, pvcName s)] ∧ ∃ ct, d.containers.head? = some ct ∧ volumeName ∈ ct.mounts := by
  cases desiredDeployment_some h
  refine ⟨if_pos hv, mainContainer s c, rfl, ?_⟩
  unfold mainContainer
  simp only [hv, true_and]
  split
  · simp
  · rename_i hc
    simpa using hc

/-- C17_rbac (partial: default service account): with early stopping and no custom serviceAccountName the pod runs under
    the generated ServiceAccount, which has the name of the Role and of the RoleBinding's subject and roleRef, and the
    controller reconciles these objects. -/
theorem C17_rbac_partial (s : Sug) (c : Cfg) (d : Deployment) (h : desiredDeployment s c = some d)
    (hes : hasES s = true) (hsa : c.serviceAccountName = "") :
    d.serviceAccount = rbacName s ∧ reconcilesRbac s c = true := by
  have hd : d.serviceAccount = rbacName s := by
    cases desiredDeployment_some h
    exact if_pos ⟨hes, hsa⟩
  refine ⟨hd, ?_⟩
  unfold reconcilesRbac
  simp [hes, h, hd]

/-- C17_rbac_counterexample (known finding, by design): with a custom serviceAccountName the pod does not run under the
    generated ServiceAccount and no RBAC objects are reconciled, although early stopping is configured. -/
theorem C17_rbac_counterexample :
    let s : Sug := ⟨"e", "ns", [], "random", .never, some "medianstop"⟩
    let c : Cfg := ⟨"", [], "custom-sa", "/opt", []⟩
    (desiredDeployment s c).map (·.serviceAccount) = some "custom-sa" ∧ reconcilesRbac s c = false := by decide

/-- C17_ns: every namespaced object lives in the Suggestion's namespace under the shared name. -/
theorem C17_ns (s : Sug) (c : Cfg) (d : Deployment) (h : desiredDeployment s c = some d) :
    d.ns = s.ns ∧ (desiredService s).ns = s.ns ∧ d.name = (desiredService s).name := by
  cases desiredDeployment_some h
  exact ⟨rfl, rfl, rfl⟩

/-! Non-vacuity -/
example : (desiredDeployment ⟨"e", "ns", [("a", "b")], "random", .fromVolume, some "medianstop"⟩ ⟨"", [("metrics", 9090)], "", "/opt", []⟩).isSome = true := by decide

end Katib.Comp
