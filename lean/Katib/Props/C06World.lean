import Katib.Lemmas.Keys
import Katib.Lemmas.Verdict
/-!
# C06 over whole schedules: trial verdicts are permanent, Succeeded excludes EarlyStopped

`C06_permanent`: for **every** list of simulator operations (any reconciles with arbitrarily lagging reads, fault masks,
abort points, any environment events; the only hypothesis is that nobody deletes Trials): every trial of every earlier snapshot
still exists, and every condition other than Running that was True then is True now (Succeeded, Failed, Killed,
EarlyStopped, MetricsUnavailable and Created are never withdrawn); no trial is ever both Succeeded and EarlyStopped.
-/
namespace Katib.Ctl
open Katib Katib.Exp

/-- trial verdicts over every schedule without Trial deletions: `TInv` and unique keys hold of the live store and of every
    snapshot, and every snapshot is in the `TPast` of the live store -/
theorem verdictSched : Sched (fun op => ∀ k, op ≠ .userDelete k) (fun _ w => TInv w ∧ KInv w) TPast where
  refl := TPast.refl
  trans := TPast.trans
  push _ h := h
  plan {s p} f vE vT vS vD hp hI := by
    obtain ⟨hW, hK⟩ := hI.cur
    obtain ⟨⟨hWT, _⟩, hPT⟩ := hI.snap vT
    have h := exec_verdict f p (hp.tjust (assemble_trials ..) hWT) hW hPT
    exact ⟨⟨h.1, exec_keys f p hK⟩, h.2⟩
  env {s op} hop henv hI := by
    obtain ⟨hW, hK⟩ := hI.cur
    suffices h : TInv (stepWorld s op).1 ∧ TPast s.cur (stepWorld s op).1 from ⟨⟨h.1, stepWorld_keys hK op⟩, h.2⟩
    rcases stepWorld_trials_cases henv with h | ⟨k', t, _, ht, hnc, h⟩ | ⟨k', hc, _⟩
    · exact hW.frame h
    · rw [h]
      refine ⟨forall_updTrial hW (fun t1 h1 hk1 => ⟨(hW t1 h1).1, fun hs => ?_⟩),
        tpast_updTrial k' (fun _ => rfl) fun _ _ => ⟨Nat.lt_succ_self _, rfl, fun _ _ hx => Cond.has_append_mono hx⟩⟩
      -- the Trial that is stopped early is the one looked up (keys are unique), and that one is not completed
      have ht1 : t1 = t := nodup_map_inj hK h1 (findTrial_mem ht) (hk1.trans (findTrial_key ht).symm)
      subst ht1
      have hs' : tHas t1 .succeeded = true := by
        unfold tHas at hs ⊢
        rw [Cond.has_append_other (by simp)] at hs
        exact hs
      unfold tCompleted at hnc
      rw [hs'] at hnc; simp at hnc
    · exact absurd hc (hop k')

theorem verdict_init (es : List ExpInit) : TInv (Sim.init es).cur ∧ KInv (Sim.init es).cur :=
  ⟨fun _ h => (nomatch h), List.nodup_nil⟩

theorem verdict_run (es : List ExpInit) {ops : List Op} (hops : ∀ op ∈ ops, ∀ k, op ≠ .userDelete k) :
    SInv (fun _ w => TInv w ∧ KInv w) TPast (run (Sim.init es) ops) :=
  verdictSched.run_init es hops (verdict_init es)

/-- **C06_permanent**: over every schedule without Trial deletions, terminal conditions are never withdrawn, a trial never disappears, and
    Succeeded excludes EarlyStopped. -/
theorem C06_permanent (es : List ExpInit) (ops : List Op) (hops : ∀ op ∈ ops, ∀ k, op ≠ .userDelete k) :
    let s := run (Sim.init es) ops
    (∀ t ∈ s.cur.trials, tHas t .succeeded = true → tHas t .earlyStopped = false) ∧
    (∀ (i : Nat) (h : World), s.hist[i]? = some h → ∀ k th, findTrial h k = some th →
      ∃ tc, findTrial s.cur k = some tc ∧ ∀ ct, ct ≠ TCT.running → tHas th ct = true → tHas tc ct = true) := by
  intro s
  have hI := verdict_run es hops
  refine ⟨fun t ht => (hI.cur.1 t ht).2, ?_⟩
  intro i h hh k th hth
  obtain ⟨tc, h1, _, _, h4⟩ := (hI.past i h hh).2 k th hth
  exact ⟨tc, h1, h4.2⟩

end Katib.Ctl
