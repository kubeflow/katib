import Katib.Gen.Guards
import Katib.Props.C07
/-!
# The model's decisions about run objects and about the Suggestion's clean-up / restart are the source's path conditions

`Katib/Gen/Guards.lean` is regenerated on every run (`kvh extract guards`): the condition under which control reaches
`r.Create(…, desiredJob)` and `r.Delete(…, desiredJob, …)` in `reconcileJob`, and the status-changing part of
`cleanupSuggestionResources` / `restartSuggestion`, computed from the enclosing `if`s and early returns, over named atoms.
-/
namespace Katib.Gen
open Katib Katib.Ctl

/-- the translator met only conditions it knows and exactly one call site each -/
theorem C07_guards_known :
    jobCreateGuardUnknown = [] ∧ jobDeleteGuardUnknown = [] ∧ jobCreateGuardSites = 1 ∧ jobDeleteGuardSites = 1 ∧
    sugCleanupGuardUnknown = [] ∧ sugRestartGuardUnknown = [] ∧ sugCleanupGuardSites = 1 ∧ sugRestartGuardSites = 1 := by decide

/-- **C07_job_guards_exclusive**: stated on the regenerated conditions of `reconcileJob` alone — the run object is created only
    after a Get that answered NotFound and only for a Trial that is not completed; it is deleted only after a Get that found it
    and only for a completed Trial that does not retain its run; and no pass reaches both calls -/
theorem C07_job_guards_exclusive (getFailed notFound completed retain earlyStopped u : Bool) :
    (jobCreateGuard getFailed notFound completed retain earlyStopped u = true → getFailed = true ∧ notFound = true ∧ completed = false) ∧
    (jobDeleteGuard getFailed notFound completed retain earlyStopped u = true → getFailed = false ∧ completed = true ∧ retain = false) ∧
    (jobCreateGuard getFailed notFound completed retain earlyStopped u && jobDeleteGuard getFailed notFound completed retain earlyStopped u) = false := by
  cases getFailed <;> simp [jobCreateGuard, jobDeleteGuard]

/-- **C07_create_is_source**: for a Trial past its finalizer and Created steps, the model's plan contains the creation of the
    run object exactly when the source's path condition of `r.Create` holds (Get answered NotFound ⇔ the model sees no job) -/
theorem C07_create_is_source (v : World) (k : Key2) (now : Nat) (t : TrialO) (ht : findTrial v k = some t)
    (hd : t.deleted = false) (hf : t.fin = true) (hc : tHas t .created = true) :
    (Call.jobCreate k ∈ (trialPlan v k now).calls) ↔
      jobCreateGuard (findJob v k).isNone (findJob v k).isNone (tCompleted t) t.retain (tHas t .earlyStopped) false = true := by
  constructor
  · intro hmem
    have hg := (Prog.all_iff _ _).1 (C07_run_object_guard v k now) _ hmem
    obtain ⟨_, hnone, t', ht', hnc⟩ := hg
    rw [ht] at ht'; cases ht'
    simp [jobCreateGuard, hnone, hnc]
  · intro hg
    unfold jobCreateGuard at hg
    simp only [Bool.and_eq_true, Bool.not_eq_true', Option.isNone_iff_eq_none] at hg
    obtain ⟨⟨hnone, _⟩, hnc⟩ := hg
    rw [trialPlan_eq now ht, hd, hf, hc]
    simp [trialReconcileJob, hnone, hnc, Prog.calls]

/-- **C07_delete_is_source**: likewise for the deletion of the run object -/
theorem C07_delete_is_source (v : World) (k : Key2) (now : Nat) (t : TrialO) (ht : findTrial v k = some t)
    (hd : t.deleted = false) (hf : t.fin = true) (hc : tHas t .created = true) :
    (Call.jobDelete k ∈ (trialPlan v k now).calls) ↔
      jobDeleteGuard (findJob v k).isNone (findJob v k).isNone (tCompleted t) t.retain (tHas t .earlyStopped) false = true := by
  constructor
  · intro hmem
    have hg := (Prog.all_iff _ _).1 (C07_run_object_guard v k now) _ hmem
    obtain ⟨_, hsome, t', ht', hcpl, hret⟩ := hg
    rw [ht] at ht'; cases ht'
    cases hj : findJob v k with
    | none => rw [hj] at hsome; cases hsome
    | some j => simp [jobDeleteGuard, hcpl, hret]
  · intro hg
    unfold jobDeleteGuard at hg
    simp only [Bool.and_eq_true, Bool.not_eq_true', Option.isNone_eq_false_iff, Option.isSome_iff_exists] at hg
    obtain ⟨⟨j, hj⟩, hcpl, hret⟩ := hg
    rw [trialPlan_eq now ht, hd, hf, hc]
    simp [trialReconcileJob, hj, hcpl, hret, Prog.calls]

/-- the experiment controller's clean-up changes the Suggestion unless it is completed or restarting, its restart step unless
    it is restarting — the two tests the model's `expPlan` makes (`sCompleted s || sRestarting s`, `sRestarting s`) -/
theorem C16_cleanup_restart_guards_are_source (sc sr ss er nv fv : Bool) :
    sugCleanupGuard false false sc sr ss er nv fv false = !(sc || sr) ∧
    sugRestartGuard false false sc sr ss er false = !sr :=
  ⟨rfl, rfl⟩

/-! ## the trial controller's `Reconcile`: finalizer, Created, `reconcileTrial` -/

def trialPlanGen (v : World) (k : Key2) (now : Nat) : Prog :=
  match findTrial v k with
  | none => .done .ok
  | some t =>
    let F (g : Bool → Bool → Bool → Bool → Bool → Bool → Bool → Bool) : Bool := g t.deleted t.fin false false false false false
    let due : Bool := F addFinalizerGuard || F removeFinalizerGuard
    let R (g : Bool → Bool → Bool → Bool → Bool → Bool → Bool → Bool → Bool) : Bool := g false false false due (tHas t .created) false false false
    if R callUpdateFinalizersGuard then
      -- `updateFinalizers`: the database clean-up first when the Trial is being deleted, then the finalizer write
      if F dbCleanupGuard then
        .step (.dbDelete k.name) (.step (.trialUpdateFin k t.rv false) (.done .requeue) (.done .err)) (.done .err)
      else .step (.trialUpdateFin k t.rv true) (.done .requeue) (.done .err)
    else if R markTrialCreatedGuard then
      trialFinish t { t.st with started := true, conds := Cond.set t.st.conds .created true rTrialCreated now }
    else if R callReconcileTrialGuard then
      match findJob v k with
      | none =>
        if tCompleted t then trialFinish t t.st
        else .step (.jobCreate k) (trialAfterJob v t .running now) (.done .err)
      | some j =>
        if tCompleted t && !t.retain then .step (.jobDelete k) (.done .ok) (.done .err)
        else trialAfterJob v t j.state now
    else .done .ok

theorem C07_reconcile_guards_known :
    addFinalizerGuardUnknown = [] ∧ removeFinalizerGuardUnknown = [] ∧ dbCleanupGuardUnknown = [] ∧ finalizerWriteGuardUnknown = [] ∧
    callUpdateFinalizersGuardUnknown = [] ∧ markTrialCreatedGuardUnknown = [] ∧ callReconcileTrialGuardUnknown = [] ∧
    addFinalizerGuardSites = 1 ∧ removeFinalizerGuardSites = 1 ∧ dbCleanupGuardSites = 1 ∧ finalizerWriteGuardSites = 1 ∧
    callUpdateFinalizersGuardSites = 1 ∧ markTrialCreatedGuardSites = 1 ∧ callReconcileTrialGuardSites = 1 := by decide

/-- **C07_reconcile_is_source**: the model's trial reconcile — finalizer added for a live Trial without it, database clean-up
    and then release for a Trial under deletion that holds it, Created, then `reconcileTrial` — is the function rebuilt from the
    regenerated path conditions of `needUpdateFinalizers`, `updateFinalizers` and `Reconcile` -/
theorem C07_reconcile_is_source (v : World) (k : Key2) (now : Nat) : trialPlan v k now = trialPlanGen v k now := by
  unfold trialPlan trialPlanGen
  cases findTrial v k with
  | none => rfl
  | some t =>
    dsimp only
    cases t.deleted
    · cases t.fin
      · rfl
      · cases tHas t .created <;> rfl
    · cases t.fin
      · cases tHas t .created <;> rfl
      · rfl

/-- the finalizer is written after a successful clean-up or for a Trial that is not being deleted, never after a failed one -/
theorem C07_finalizer_write_guard_is_source (deleting hasFin isK f1 f2 isDel : Bool) :
    finalizerWriteGuard deleting hasFin isK f1 f2 isDel false = (!deleting || !f1) := by
  cases deleting <;> cases f1 <;> rfl

end Katib.Gen
