import Katib.Props.C14
import Katib.Lemmas.Repl
/-!
# C14 (template part): an admitted Experiment's trial parameters can be resolved for every feasible assignment

`C14_template_partial`: if the defaulted Experiment is admitted and has parameters (an admitted Experiment without any is a NAS
experiment, whose trial parameters the validator ties to nothing: finding C14-nas-trial-parameters-unchecked), the validator and
the generator read every reference alike (`hcoh`; both parses are oracles), every experiment parameter is consumed by a trial
parameter and every trial-metadata reference can be resolved on the template (these two hypotheses exclude exactly the
known findings C14-parameter-not-consumed-by-template and C14-unresolvable-trial-metadata-reference), then for **every**
assignment of values to the experiment's parameters the generator's placeholder map (`Katib.Tpl.placeholders`, the model of
`applyParameters` up to the textual substitution) is built without error: no "parameter not found", no count mismatch, no
illegal metadata reference.  (That the substituted text still parses as JSON is outside: finding
C14-json-metacharacter-in-feasible-value, and the JSON engine is an oracle.)
-/
namespace Katib.Adm
open Katib

-- the old `split` re-simplifies every nested `if` after each case, which is slow to check on the loop body's chain
set_option backward.split false

/-! ### what an error-free loop over `trialParameters` establishes -/

theorem tpStep_errs_prefix (pn : List String) (st : LoopSt) (x : Nat × TP) : st.errs <+: (tpStep pn st x).errs := by
  unfold tpStep
  extract_lets i p at_ e1 st1
  split
  · exact List.prefix_refl _
  split
  · exact List.prefix_append _ _
  split
  · exact List.prefix_append _ _
  split
  · exact List.prefix_append _ _
  split
  · exact (List.prefix_append _ _).trans (List.prefix_append _ _)
  · exact List.prefix_append _ _

theorem foldl_tpStep_errs_prefix (pn : List String) (xs : List (Nat × TP)) (st : LoopSt) :
    st.errs <+: (xs.foldl (tpStep pn) st).errs := by
  induction xs generalizing st with
  | nil => exact List.prefix_refl _
  | cons x r ih => exact (tpStep_errs_prefix pn st x).trans (ih _)

theorem tpStep_clean (pn : List String) (st : LoopSt) (i : Nat) (p : TP) (hs : st.stopped = false)
    (h : (tpStep pn st (i, p)).errs = []) :
    p.ref ∉ st.refs ∧ (pn ≠ [] → p.isMeta = false → p.ref ∈ pn) ∧
    (tpStep pn st (i, p)).refs = p.ref :: st.refs ∧ (tpStep pn st (i, p)).stopped = false := by
  generalize hr : tpStep pn st (i, p) = r at h ⊢
  unfold tpStep at hr
  rw [if_neg (ne_true_of_eq_false hs)] at hr
  simp only [] at hr
  -- each of the three rejections and the early return appends an error
  split at hr
  · subst hr
    exact nomatch (errs_append_nil h).2
  split at hr
  · subst hr
    exact nomatch (errs_append_nil h).2
  split at hr
  · subst hr
    exact nomatch (errs_append_nil h).2
  rename_i hrefs
  split at hr
  · subst hr
    exact nomatch (errs_append_nil h).2
  subst hr
  refine ⟨by simpa using hrefs, fun hne hm => ?_, rfl, hs⟩
  simpa [hne, hm] using not_of_ite_nil (errs_append_nil h).2

theorem nodup_cons_of_fresh {α β : Type} (f : α → β) {p : α} {r : List α} {seen : List β} (hp : f p ∉ seen)
    (hr : (r.map f).Nodup ∧ ∀ q ∈ r, f q ∉ f p :: seen) :
    ((p :: r).map f).Nodup ∧ ∀ q ∈ p :: r, f q ∉ seen := by
  obtain ⟨a, b⟩ := hr
  simp only [List.mem_cons, not_or] at b
  refine ⟨List.nodup_cons.2 ⟨fun hm => ?_, a⟩, List.forall_mem_cons.2 ⟨hp, fun q hq => (b q hq).2⟩⟩
  obtain ⟨q, hq, e⟩ := List.mem_map.1 hm
  exact (b q hq).1 e

theorem loop_refs (pn : List String) (tps : List TP) : ∀ (i : Nat) (st : LoopSt), st.stopped = false →
    ((enum i tps).foldl (tpStep pn) st).errs = [] →
    ((tps.map (·.ref)).Nodup ∧ ∀ tp ∈ tps, tp.ref ∉ st.refs) ∧ (pn ≠ [] → ∀ tp ∈ tps, tp.isMeta = false → tp.ref ∈ pn) := by
  induction tps with
  | nil => intro i st _ _; exact ⟨⟨List.nodup_nil, List.forall_mem_nil _⟩, fun _ => List.forall_mem_nil _⟩
  | cons p r ih =>
    intro i st hs h
    rw [enum, List.foldl_cons] at h
    have hstep := List.prefix_nil.1 (h ▸ foldl_tpStep_errs_prefix pn (enum (i + 1) r) (tpStep pn st (i, p)))
    obtain ⟨c1, c2, c3, c4⟩ := tpStep_clean pn st i p hs hstep
    obtain ⟨d1, d2⟩ := ih (i + 1) _ c4 h
    rw [c3] at d1
    exact ⟨nodup_cons_of_fresh TP.ref c1 d1, fun hne => List.forall_mem_cons.2 ⟨c2 hne, d2 hne⟩⟩

/-! ### parameter names of an admitted experiment are pairwise distinct -/

theorem paramErrs_nodup : ∀ (ps : List Param) (seen : List String) (i : Nat), paramErrsFrom seen i ps = [] →
    (ps.map (·.name)).Nodup ∧ ∀ p ∈ ps, p.name ∉ seen := by
  intro ps
  induction ps with
  | nil => intro _ _ _; exact ⟨List.nodup_nil, List.forall_mem_nil _⟩
  | cons p r ih =>
    intro seen i h
    obtain ⟨h1, h2⟩ := errs_append_nil h
    have hp : ¬ (p.name = "" ∨ seen.contains p.name = true) :=
      not_of_ite_nil (errs_append_nil (errs_append_nil (errs_append_nil h1).1).1).1
    exact nodup_cons_of_fresh Param.name (fun hm => hp (.inr (List.contains_iff_mem.2 hm))) (ih _ _ h2)

/-! ### the generator's placeholder map -/

/-- the generator can resolve this trial-metadata reference on the template's run object -/
def resolvable (m : Tpl.Meta) : Tpl.Ref → Prop
  | .assign _ => False
  | .metaName => True
  | .metaNamespace => True
  | .metaKind => True
  | .metaAPIVersion => True
  | .metaAnnotation k => (Tpl.lookupS m.annotations k).isSome = true
  | .metaLabel k => (Tpl.lookupS m.labels k).isSome = true
  | .illegal => False

theorem refValue_of_resolvable {m : Tpl.Meta} (asg : List (String × String)) {ref : Tpl.Ref} (hr : resolvable m ref) :
    ∃ v, Tpl.refValue m asg ref = .ok (v, 0) := by
  cases ref with
  | assign _ => exact hr.elim
  | illegal => exact hr.elim
  | metaAnnotation k | metaLabel k =>
    obtain ⟨v, hv⟩ := Option.isSome_iff_exists.1 hr
    exact ⟨v, by rw [Tpl.refValue, hv]⟩
  | _ => exact ⟨_, rfl⟩

def nonMeta (tps : List TP) : List TP := tps.filter (fun tp => !tp.isMeta)

theorem buildMap_ok (m : Tpl.Meta) (asg : List (String × String)) (tps : List TP)
    (hcoh : ∀ tp ∈ tps, tp.isMeta = false → tp.gref = .assign tp.ref)
    (hmeta : ∀ tp ∈ tps, tp.isMeta = true → resolvable m tp.gref)
    (hin : ∀ tp ∈ tps, tp.isMeta = false → tp.ref ∈ asg.map (·.1)) :
    ∃ ps, Tpl.buildMap m asg (tps.map (fun tp => (tp.name, tp.gref))) = .ok (ps, (nonMeta tps).length) := by
  induction tps with
  | nil => exact ⟨[], rfl⟩
  | cons p r ih =>
    obtain ⟨hcp, hcoh⟩ := List.forall_mem_cons.1 hcoh
    obtain ⟨hmp, hmeta⟩ := List.forall_mem_cons.1 hmeta
    obtain ⟨hip, hin⟩ := List.forall_mem_cons.1 hin
    obtain ⟨ps, hps⟩ := ih hcoh hmeta hin
    rw [List.map_cons, Tpl.buildMap_cons, hps]
    cases hm : p.isMeta with
    | false =>
      obtain ⟨v, hv⟩ := Option.isSome_iff_exists.1 (Tpl.lookupLast_some_of_mem asg p.ref (hip hm))
      exact ⟨(p.name, v) :: ps, by simp [nonMeta, hcp hm, Tpl.refValue, hv, hm]⟩
    | true =>
      obtain ⟨v, hv⟩ := refValue_of_resolvable asg (hmp hm)
      exact ⟨(p.name, v) :: ps, by simp [nonMeta, hv, hm]⟩

/-- the generator's side on its own: the references are distinct and the non-meta ones are exactly the assigned names,
    themselves distinct, so the count check passes -/
theorem placeholders_ok (m : Tpl.Meta) (asg : List (String × String)) (tps : List TP)
    (hcoh : ∀ tp ∈ tps, tp.isMeta = false → tp.gref = .assign tp.ref)
    (hmeta : ∀ tp ∈ tps, tp.isMeta = true → resolvable m tp.gref)
    (hrefs : (tps.map (·.ref)).Nodup) (hasg : (asg.map (·.1)).Nodup)
    (hin : ∀ tp ∈ tps, tp.isMeta = false → tp.ref ∈ asg.map (·.1))
    (hcons : ∀ n ∈ asg.map (·.1), ∃ tp ∈ tps, tp.isMeta = false ∧ tp.ref = n) :
    ∃ ps, Tpl.placeholders m asg (tps.map (fun tp => (tp.name, tp.gref))) = .ok ps := by
  obtain ⟨ps, hps⟩ := buildMap_ok m asg tps hcoh hmeta hin
  have hsub : (nonMeta tps).map (·.ref) ⊆ asg.map (·.1) := by
    intro r hr
    obtain ⟨tp, htp, rfl⟩ := List.mem_map.1 hr
    obtain ⟨htp, hm⟩ := List.mem_filter.1 htp
    exact hin tp htp (by simpa using hm)
  have hsup : asg.map (·.1) ⊆ (nonMeta tps).map (·.ref) := by
    intro n hn
    obtain ⟨tp, htp, hm, rfl⟩ := hcons n hn
    exact List.mem_map.2 ⟨tp, List.mem_filter.2 ⟨htp, by simp [hm]⟩, rfl⟩
  have a1 := ((List.filter_sublist.map _).nodup hrefs).length_le_of_subset hsub
  have a2 := hasg.length_le_of_subset hsup
  simp only [List.length_map] at a1 a2
  exact ⟨Tpl.dedupLast ps, by simp [Tpl.placeholders, hps, Nat.le_antisymm a2 a1]⟩

theorem setDefault_names (ps : List Param) : (ps.map Param.setDefault).map (·.name) = ps.map (·.name) := by
  rw [List.map_map]
  apply List.map_congr_left
  intro p _
  simp only [Function.comp, Param.setDefault]
  split <;> rfl

theorem C14_template_partial (e : Exp) (hadm : validate e.setDefault = .errs [])
    (t : Tmpl) (tps : List TP) (ht : e.setDefault.template = some t) (htp : t.tparams = some tps)
    (hhp : e.params ≠ []) (m : Tpl.Meta)
    (hcoh : ∀ tp ∈ tps, tp.isMeta = false → tp.gref = .assign tp.ref)
    (hmeta : ∀ tp ∈ tps, tp.isMeta = true → resolvable m tp.gref)
    (hcons : ∀ p ∈ e.params, ∃ tp ∈ tps, tp.isMeta = false ∧ tp.ref = p.name)
    (asg : List (String × String)) (hasg : asg.map (·.1) = e.params.map (·.name)) :
    ∃ ps, Tpl.placeholders m asg (tps.map (fun tp => (tp.name, tp.gref))) = .ok ps := by
  obtain ⟨_, _, htpl, hpar, _⟩ := validate_nil hadm
  obtain ⟨t', tps', ht', htp', _, _, _, htail⟩ := templateErrs_nil htpl
  cases ht.symm.trans ht'
  cases htp.symm.trans htp'
  obtain ⟨_, text, _, hloop⟩ := templateTail_nil htail
  have hnames : e.setDefault.params.map (·.name) = e.params.map (·.name) := setDefault_names e.params
  have hnd := (paramErrs_nodup _ [] 0 hpar).1
  rw [hnames] at hloop hnd
  obtain ⟨⟨hrefs, _⟩, hin⟩ := loop_refs _ tps 0 _ rfl hloop
  rw [← hasg] at hin hnd
  refine placeholders_ok m asg tps hcoh hmeta hrefs hnd (hin fun h => hhp (List.map_eq_nil_iff.1 (hasg ▸ h))) fun n hn => ?_
  obtain ⟨p, hp, rfl⟩ := List.mem_map.1 (hasg ▸ hn)
  exact hcons p hp

/-- non-vacuity: an admitted experiment that meets every hypothesis of `C14_template_partial` -/
def demoExp : Exp :=
  { name := "exp", budget := { max := some 3, parallel := none, maxFailed := some 1 },
    objective := some { typ := "maximize", metric := "acc", additional := [] },
    algorithm := some "random", algoKnown := true, earlyStopping := none, esKnown := false, resume := "",
    params := [{ name := "lr", ptype := "double", min := "0.1", max := "0.9", step := "", list := [], dist := "" }],
    nas := false,
    template := some { primary := "main", success := "", failure := "", hasSpec := true, hasCM := false, cmComplete := false, kindClass := .job,
                       tparams := some [{ name := "lrP", ref := "lr", isMeta := false, gref := .assign "lr" },
                                        { name := "n", ref := "${trialSpec.Name}", isMeta := true, gref := .metaName }],
                       text := some "a=${trialParameters.lrP} b=${trialParameters.n}" },
    dry := { leftover := false, parses := true, nameOmitted := true, gvkSet := true, jobOk := true },
    mc := none, mcCfgKnown := true }

set_option maxRecDepth 100000 in
example : validate demoExp.setDefault = .errs [] := by decide +kernel

end Katib.Adm
