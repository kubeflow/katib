import Katib.Lemmas.TrialSt
/-!
# A MetricsUnavailable Trial is never Running — over every schedule

`C06_unavailable_not_running`: for every list of simulator operations (no hypothesis on the schedule), every Trial of the
current store that carries MetricsUnavailable = True has Running ≠ True.  It is one of the facts about reachable stores that
`C04_quiescent_verdict_partial` assumes; `C04_quiescent_verdict_on_schedules` takes it from here.
The schedule part is `trialStSched` (Lemmas/TrialSt.lean), for any property of Trial statuses: only the trial reconcile and the
early-stopping service have to be looked at here.
-/
namespace Katib.Ctl
open Katib Katib.Exp

def MUOk (cs : List TCond) : Prop := Cond.has cs .metricsUnavailable = true → Cond.has cs .running = false

def MInv (w : World) : Prop := TrialStInv (fun st => MUOk st.conds) w

theorem muok_tMark {cs : List TCond} {ty : TCT} {r : String} {now : Nat} (h : ty ≠ .running) : MUOk (tMark cs ty r now) := by
  intro _
  unfold tMark
  rw [Cond.has_set_other (fun e => h e.symm), has_trialRunningFalse_self]

theorem muok_of_same {a b : List TCond} (h1 : Cond.has b .metricsUnavailable = Cond.has a .metricsUnavailable)
    (h2 : Cond.has b .running = Cond.has a .running) (h : MUOk a) : MUOk b := by
  unfold MUOk
  rw [h1, h2]
  exact h

theorem trialPlan_mu (v : World) (k : Key2) (now : Nat) (hv : MInv v) : (trialPlan v k now).All (TrialStJust fun st => MUOk st.conds) :=
  trialPlan_all fun _ ht _ hc => by
    have hvt := hv _ (findTrial_mem ht)
    cases hc with
    | status hw _ =>
      cases hw with
      | created _ _ => exact muok_of_same (Cond.has_set_other (by decide)) (Cond.has_set_other (by decide)) hvt
      | updated _ hu hm =>
        cases hm with
        | succeeded _ _ _ => exact muok_tMark (by decide)
        | unavailable _ _ => exact muok_tMark (by decide)
        | failed _ _ => exact muok_tMark (by decide)
        | running _ hes =>
          -- Running is set for a Trial that is not completed, so not MetricsUnavailable
          intro hmu
          rw [show Cond.has (Cond.set _ .running true rTrialRunning now) TCT.metricsUnavailable = _ from
            Cond.has_set_other (by decide), hu.obs.conds] at hmu
          cases hmu.symm.trans (not_completed_has (hu.not_completed hes)).2.2.2.2
        | kept =>
          show MUOk _
          rw [hu.obs.conds]
          exact hvt
    | _ => trivial

/-- **C06_unavailable_not_running**: over every schedule (no hypothesis), a Trial that is MetricsUnavailable is not Running. -/
theorem C06_unavailable_not_running (es : List ExpInit) (ops : List Op) :
    ∀ t ∈ (run (Sim.init es) ops).cur.trials, tHas t .metricsUnavailable = true → tHas t .running = false :=
  trialSt_run (P := fun st => MUOk st.conds) nofun trialPlan_mu (fun hc _ h hmu => by
    rw [Cond.has_append_other (by rw [hc]; nofun)] at hmu ⊢
    exact h hmu) es ops

end Katib.Ctl
