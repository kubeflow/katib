import Katib.Lemmas.ExpPlan
import Katib.Lemmas.Sched
import Katib.Lemmas.SugPlan
import Katib.Lemmas.TrialPlan
/-!
# C03 over whole schedules: a verdict that is not restartable is never touched again

`C03_frozen_verdict_world`: for every list of simulator operations — no hypothesis on the schedule: arbitrarily lagging views,
fault masks, abort points, budget edits (also raising `maxTrialCount`), Trial deletions — if some snapshot of the history
shows Experiment `k` Created and completed with a verdict that is **not restartable** (Failed; Succeeded by goal or because
the suggestion ended; any verdict under resume policy Never), then the Experiment still exists and its condition list and
completion time are **identical** now: verdict, reason and time are never rewritten, whatever the user edits.

(The complementary case — Succeeded by MaxTrialsReached under LongRunning / FromVolume, "until the user raises
`maxTrialCount`" — depends on the Trial list the controller is shown and does not hold under arbitrarily lagging views; see
DESIGN §4.)

Structure: history relation `EPast` (the Experiment persists, `resourceVersion` never decreases, equal version means equal
object, the configuration never changes, a frozen verdict is kept), plan guard `FGuard` (a status write computed from a frozen
copy carries that copy's conditions and completion time), and the `resourceVersion` check of the API server: a
write computed from a stale copy is rejected, one computed from the current copy keeps it.
-/
namespace Katib.Ctl
open Katib Katib.Exp

def Frozen (e : ExpO) : Prop :=
  Cond.has e.st.conds .created = true ∧ isCompleted e.st.conds = true ∧ restartable e.st.conds e.cfg.resume = false

def EPast (k : Key2) (h c : World) : Prop :=
  ∀ eh, findExp h k = some eh → ∃ ec, findExp c k = some ec ∧ eh.rv ≤ ec.rv ∧ (eh.rv = ec.rv → eh = ec) ∧ ec.cfg = eh.cfg ∧
    (Frozen eh → ec.st.conds = eh.st.conds ∧ ec.st.completion = eh.st.completion)

theorem EPast.refl (k : Key2) (w : World) : EPast k w w :=
  fun eh h => ⟨eh, h, Nat.le_refl _, fun _ => rfl, rfl, fun _ => ⟨rfl, rfl⟩⟩

theorem EPast.trans {k : Key2} {a b c : World} (h1 : EPast k a b) (h2 : EPast k b c) : EPast k a c := by
  intro ea ha
  obtain ⟨eb, hb, r1, e1, c1, f1⟩ := h1 ea ha
  obtain ⟨ec, hc, r2, e2, c2, f2⟩ := h2 eb hb
  refine ⟨ec, hc, Nat.le_trans r1 r2, fun e => ?_, c2.trans c1, fun hf => ?_⟩
  · rw [e1 (by omega), e2 (by omega)]
  · obtain ⟨g1, g2⟩ := f1 hf
    have hfb : Frozen eb := by
      unfold Frozen at hf ⊢
      rw [g1, c1]
      exact hf
    exact ⟨(f2 hfb).1.trans g1, (f2 hfb).2.trans g2⟩

theorem EPast.frame {k : Key2} {w w' : World} (he : w'.exps = w.exps) : EPast k w w' :=
  fun eh h => ⟨eh, by rw [findExp_congr he]; exact h, Nat.le_refl _, fun _ => rfl, rfl, fun _ => ⟨rfl, rfl⟩⟩

theorem epast_upd {k : Key2} {w : World} (k' : Key2) (f : ExpO → ExpO)
    (hf : ∀ e, (f e).key = e.key ∧ (f e).rv = e.rv + 1 ∧ (f e).cfg = e.cfg)
    (hfz : ∀ e, findExp w k = some e → e.key = k' → Frozen e → (f e).st.conds = e.st.conds ∧ (f e).st.completion = e.st.completion) :
    EPast k w (updExp w k' f) :=
  find?_map_upd_rel ExpO.key (fun e => (hf e).1) (fun _ _ => ⟨Nat.le_refl _, fun _ => rfl, rfl, fun _ => ⟨rfl, rfl⟩⟩)
    fun e he hk' => ⟨by rw [(hf e).2.1]; omega, fun h => by rw [(hf e).2.1] at h; omega, (hf e).2.2, hfz e he hk'⟩

/-- a status write computed from a frozen copy `e` carries `e`'s conditions and completion time -/
def FGuard (e : ExpO) : Call → Prop
  | .expStatus k' rv st' => k' = e.key ∧ rv = e.rv ∧ (Frozen e → st'.conds = e.st.conds ∧ st'.completion = e.st.completion)
  | .expUpdateFin k' rv _ => k' = e.key ∧ rv = e.rv
  | _ => True

theorem restartGuard_frozen (e : ExpO) (hf : Frozen e) : restartGuard e = false := by
  unfold restartGuard; rw [hf.2.2]; rfl

theorem ExpCall.fguard {v : World} {e : ExpO} {now : Nat} {c : Call} (hc : ExpCall v e now c) : FGuard e c := by
  cases hc with
  | addFinalizer _ _ => exact ⟨rfl, rfl⟩
  | removeFinalizer _ _ => exact ⟨rfl, rfl⟩
  | status hw _ => exact ⟨rfl, rfl, fun hf => hw.frozen hf.2.1 hf.1 (restartGuard_frozen e hf)⟩
  | _ => trivial

theorem expPlan_fguard (v : World) (k : Key2) (now : Nat) (e : ExpO) (he : findExp v k = some e) :
    (expPlan v k now).All (FGuard e) :=
  (expPlan_spec now he).mono fun _ => ExpCall.fguard

/-! ## calls against the live store -/

/-- justification of a call relative to the store `hE` the Experiment copy was read from -/
def FJust (k : Key2) (hE : World) : Call → Prop
  | .expStatus k' rv st' => k' = k → ∃ e, findExp hE k = some e ∧ rv = e.rv ∧
      (Frozen e → st'.conds = e.st.conds ∧ st'.completion = e.st.completion)
  | _ => True

theorem apply_pres_F {k : Key2} {hE w w' : World} {c : Call} (hP : EPast k hE w) (hJ : FJust k hE c)
    (h : applyCall w c = .ok w') : EPast k w w' := by
  rcases applyCall_exps_cases h with hfr | ⟨k', rv, st, e0, rfl, he0, hrv, rfl⟩ | ⟨k', _, _, _, _, _, _, rfl⟩
  · exact EPast.frame hfr
  · refine epast_upd k' _ (fun _ => ⟨rfl, rfl, rfl⟩) (fun e he hk' hf => ?_)
    -- the write was for `k' = k`, computed from a copy of `hE` with the live resourceVersion: that copy is the live object
    cases hk'.symm.trans (findExp_key he)
    obtain ⟨ev, hev, hrv', hkeep⟩ := hJ rfl
    obtain ⟨ec, hec, _, heq, _, _⟩ := hP ev hev
    cases he0.symm.trans he
    cases hec.symm.trans he
    cases heq (hrv'.symm.trans hrv.symm)
    exact hkeep hf
  · exact epast_upd k' _ (fun _ => ⟨rfl, rfl, rfl⟩) (fun _ _ _ _ => ⟨rfl, rfl⟩)

/-- along any path of a plan whose Experiment writes are justified by the store `hE`, the live store stays a future of itself
    and of `hE` -/
theorem exec_frozen {k : Key2} {hE : World} (f : Faults) :
    ∀ (p : Prog) (w : World) (i : Nat) (log : List String), p.All (FJust k hE) → EPast k hE w →
      EPast k w (exec f p w i log).w :=
  fun p w i log hp hP =>
    (exec_preserves (I := fun w' => EPast k hE w' ∧ EPast k w w') f
      (fun _ _ _ hI hc h => have h1 := apply_pres_F hI.1 hc h; ⟨hI.1.trans h1, hI.2.trans h1⟩) p w i log hp ⟨hP, EPast.refl k w⟩).2

theorem Plan.fjust (k : Key2) {v hE : World} {now : Nat} {p : Prog} (hp : Plan v now p) (hexps : v.exps = hE.exps) :
    p.All (FJust k hE) := by
  cases hp with
  | exp k' =>
    exact expPlan_all fun e he c hc => by
      cases hc with
      | status hw hne =>
        intro hk
        refine ⟨e, ?_, rfl, (ExpCall.status hw hne).fguard.2.2⟩
        rw [← findExp_congr hexps, ← hk, findExp_key he]
        exact he
      | _ => trivial
  | sug k' env => exact sugPlan_all fun _ _ _ hc => by cases hc <;> trivial
  | trial k' => exact trialPlan_all fun _ _ _ hc => by cases hc <;> trivial

theorem stepWorld_epast (k : Key2) {s : Sim} {op : Op} (hop : op.env = true) : EPast k s.cur (stepWorld s op).1 := by
  rcases stepWorld_exps_cases hop with h | ⟨k', _, _, h⟩
  · exact EPast.frame h
  · rw [h]
    exact epast_upd k' _ (fun _ => ⟨rfl, rfl, rfl⟩) (fun _ _ _ _ => ⟨rfl, rfl⟩)

/-- every snapshot is in the `EPast` of the live store; an experiment reconcile writes from the copy of a snapshot -/
theorem frozenSched (k : Key2) : Sched (fun _ => True) (fun _ _ => True) (EPast k) where
  refl := EPast.refl k
  trans := EPast.trans
  push _ h := h
  plan {s p} f vE vT vS vD hp hI :=
    ⟨trivial, exec_frozen f p _ 0 [] (hp.fjust k (assemble_exps ..)) (hI.snap vE).2⟩
  env _ hop _ := ⟨trivial, stepWorld_epast k hop⟩

/-- **C03_frozen_verdict_world**: over every schedule (no hypothesis): an Experiment that some snapshot shows Created and
    completed with a verdict that is not restartable still exists, with the identical condition list (verdict, reason, times)
    and completion time, and with the same configuration. -/
theorem C03_frozen_verdict_world (k : Key2) (es : List ExpInit) (ops : List Op) :
    let s := run (Sim.init es) ops
    ∀ (i : Nat) (h : World) (eh : ExpO), s.hist[i]? = some h → findExp h k = some eh →
      Cond.has eh.st.conds .created = true → isCompleted eh.st.conds = true → restartable eh.st.conds eh.cfg.resume = false →
      ∃ ec, findExp s.cur k = some ec ∧ ec.st.conds = eh.st.conds ∧ ec.st.completion = eh.st.completion ∧ ec.cfg = eh.cfg := by
  intro s i h eh hh he h1 h2 h3
  have hI := (frozenSched k).run_init es (ops := ops) (fun _ _ => trivial) trivial
  obtain ⟨ec, hc, _, _, hcfg, hkeep⟩ := (hI.past i h hh).2 eh he
  obtain ⟨a, b⟩ := hkeep ⟨h1, h2, h3⟩
  exact ⟨ec, hc, a, b, hcfg⟩

/-! Non-vacuity: a concrete schedule — one Trial under resume policy Never, `maxTrialCount` 1 — ends Succeeded by
MaxTrialsReached, which is not restartable under Never; the user then raises `maxTrialCount` to 5 and the controllers run
again: the Experiment is still completed, not restartable, and carries the new budget. -/
def frozenKey : Key2 := { ns := "ns", name := "exp" }
def frozenTrial : Key2 := { ns := "ns", name := "exp-t1" }
def frozenOps : List Op :=
  [.recExp frozenKey 100 100 100 {}, .recExp frozenKey 100 100 100 {}, .recExp frozenKey 100 100 100 {},
   .recSug frozenKey 100 100 100 100 {} {}, .recSug frozenKey 100 100 100 100 {} {}, .deployReady frozenKey,
   .recSug frozenKey 100 100 100 100 {} {}, .recExp frozenKey 100 100 100 {},
   .recTrial frozenTrial 100 {}, .recTrial frozenTrial 100 {}, .recTrial frozenTrial 100 {}, .job frozenTrial true,
   .metric "exp-t1" "0.9" none "acc", .recTrial frozenTrial 100 {}, .recTrial frozenTrial 100 {},
   .recExp frozenKey 100 100 100 {}, .recExp frozenKey 100 100 100 {},
   .editMax frozenKey 5, .recExp frozenKey 100 100 100 {}, .recExp frozenKey 100 100 100 {}, .recSug frozenKey 100 100 100 100 {} {}]

def frozenCfg : ExpCfg := { goal := none, objType := .maximize, resume := .never, es := false, retain := true, push := false, labels := false }
def frozenExp : ExpInit := { key := frozenKey, par := 1, maxT := some 1, maxF := none, cfg := frozenCfg }

example :
    (findExp (run (Sim.init [frozenExp]) frozenOps).cur frozenKey).map
      (fun e => (Cond.has e.st.conds .created, isCompleted e.st.conds, restartable e.st.conds e.cfg.resume, e.maxT)) =
      some (true, true, false, some 5) := by decide

end Katib.Ctl
