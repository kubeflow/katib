import Katib.Model.JobStatus
/-!
# C06 on job status documents: the verdict is decided by which condition expression matched, failure first

For every list of condition entries (any members, any order, any number) and every pair of expressions of the modelled
shapes.
-/
namespace Katib.Job

theorem eval_eq_none {x : Expr} {conds : List Entry} : x.eval conds = none ↔ ∀ e ∈ conds, x.matches e = false := by
  unfold Expr.eval
  simp only [List.find?_eq_none, Bool.not_eq_true]

theorem eval_map {x : Expr} {f : Entry → Entry} (hx : ∀ e, x.matches (f e) = x.matches e) (conds : List Entry) :
    x.eval (conds.map f) = (x.eval conds).map f := by
  unfold Expr.eval
  rw [List.find?_map, show x.matches ∘ f = x.matches from funext hx]

/-- **failure is checked first**: an entry satisfying the failure condition makes the job Failed whatever else the
    document holds (also an entry satisfying the success condition). -/
theorem C06J_failure_first (conds : List Entry) (fe se : Expr) (r n : Bool) (e : Entry) (he : e ∈ conds) (hm : fe.matches e = true) :
    ∃ s, jobStatus conds fe se r n = some s ∧ s.verdict = .failed := by
  unfold jobStatus
  cases h : fe.eval conds with
  | some e' => exact ⟨_, rfl, rfl⟩
  | none => rw [eval_eq_none.mp h e he] at hm; cases hm

/-- **Succeeded only from the success condition**: a Succeeded verdict means that some entry satisfies the success
    condition and that no entry satisfies the failure condition. -/
theorem C06J_succeeded_iff (conds : List Entry) (fe se : Expr) (r n : Bool) :
    (∃ s, jobStatus conds fe se r n = some s ∧ s.verdict = .succeeded) ↔
      ((∀ e ∈ conds, fe.matches e = false) ∧ ∃ e ∈ conds, se.matches e = true) := by
  rw [← eval_eq_none]
  unfold jobStatus
  cases fe.eval conds with
  | some e' => exact ⟨fun ⟨s, hs, hv⟩ => (by cases hs; cases hv), fun ⟨h, _⟩ => nomatch h⟩
  | none =>
    cases hsu : se.eval conds with
    | some e' => exact ⟨fun _ => ⟨rfl, e', List.mem_of_find?_eq_some hsu, List.find?_some hsu⟩, fun _ => ⟨_, rfl, rfl⟩⟩
    | none =>
      refine ⟨fun ⟨s, hs, hv⟩ => ?_, fun ⟨_, e, he, hm⟩ => ?_⟩
      · cases hrn : (!r && n) with
        | false => simp [hrn] at hs
        | true =>
          simp [hrn] at hs
          rw [← hs] at hv
          cases hv
      · rw [eval_eq_none.mp hsu e he] at hm; cases hm

/-- members of the entries that neither expression reads and that are not `reason` / `message` cannot influence the
    result: rewriting every entry with a function that preserves the members read leaves the status unchanged.
    (In particular a member called `condition` inside the matched entry does not decide the verdict.) -/
theorem C06J_only_expression_members_matter (conds : List Entry) (f : Entry → Entry) (fe se : Expr) (r n : Bool)
    (hfe : ∀ e, fe.matches (f e) = fe.matches e) (hse : ∀ e, se.matches (f e) = se.matches e)
    (hr : ∀ e, (f e).get "reason" = e.get "reason") (hmsg : ∀ e, (f e).get "message" = e.get "message") :
    jobStatus (conds.map f) fe se r n = jobStatus conds fe se r n := by
  unfold jobStatus
  rw [eval_map hfe, eval_map hse]
  cases fe.eval conds with
  | some e => simp only [Option.map_some, hr, hmsg]
  | none =>
    cases se.eval conds with
    | some e => simp only [Option.map_some, Option.map_none, hr, hmsg]
    | none => rfl

/-- a job that satisfies neither condition is reported Running once (when the Trial is not Running yet and the object has
    a name) and otherwise leaves the Trial untouched -/
theorem C06J_neither (conds : List Entry) (fe se : Expr) (r n : Bool)
    (hf : ∀ e ∈ conds, fe.matches e = false) (hs : ∀ e ∈ conds, se.matches e = false) :
    jobStatus conds fe se r n = if !r && n then some { verdict := .running } else none := by
  unfold jobStatus
  rw [eval_eq_none.mpr hf, eval_eq_none.mpr hs]

/-- non-vacuity: a document with both a Failed and a Complete entry (and a stray `condition` member) is Failed -/
example :
    jobStatus [[("type", "Complete"), ("status", "True")], [("type", "Failed"), ("status", "True"), ("condition", "Succeeded"), ("reason", "BackoffLimitExceeded")]]
      (.all "type" "Failed" "status" "True") (.all "type" "Complete" "status" "True") true true
      = some { verdict := .failed, reason := "BackoffLimitExceeded" } := by decide

end Katib.Job
