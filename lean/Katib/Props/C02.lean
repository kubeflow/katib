import Katib.Lemmas.Repl
/-!
# C02 — Trials run exactly what the algorithm suggested (assignment → trial → run spec)

String level: theorems about `replaceAll` / `applyAll` (model of the `strings.Replace(-1)` loop of `applyParameters`) on
templates given as literal / placeholder segments, for every template, every number of occurrences and every order of
the replacements.  Hypotheses (the property's quantifier): placeholder names contain neither `$` nor `}`, literals and
values contain no `$`.  Record level: `trialInstance` (model of `getTrialInstance`).  JSON/YAML (de)serialisation and
the regexps that parse references are oracles (exercised by the correspondence).
-/
namespace Katib.Tpl

/-- C02_replace_one: replacing one placeholder in a rendered template renders the template with that hole filled —
    every occurrence, nothing else. -/
theorem C02_replace_one (σ : Subst) (n v : List Char) (segs : List Seg)
    (hn : NameOk n) (hσ : σ n = none) (hv : DollarFree v) (hok : ∀ sg ∈ segs, SegOk σ sg) :
    replaceAll (ph n) v (render σ segs) = render (σ.insert n v) segs := by
  induction segs with
  | nil => rfl
  | cons sg r ih =>
    obtain ⟨hsg, hr⟩ := List.forall_mem_cons.1 hok
    simp only [render, renderSeg, Subst.insert]
    cases sg with
    | lit s => rw [replaceAll_dollarFree n v s _ hsg, ih hr]
    | hole m =>
      simp only []
      by_cases hmn : m = n
      · subst hmn
        rw [hσ, if_pos rfl, replaceAll_ph_self, ih hr]
      · rw [if_neg hmn]
        cases hσm : σ m with
        | some w => exact (replaceAll_dollarFree n v w _ (hsg.2 w hσm)).trans (congrArg _ (ih hr))
        | none => exact (replaceAll_ph_other n m v _ hn hsg.1 hmn).trans (congrArg _ (ih hr))

def extend (σ : Subst) (ps : List (List Char × List Char)) : Subst := ps.foldl (fun s p => s.insert p.1 p.2) σ

theorem segOk_insert (σ : Subst) (n v : List Char) (hv : DollarFree v) (sg : Seg) (h : SegOk σ sg) : SegOk (σ.insert n v) sg := by
  cases sg with
  | lit s => exact h
  | hole m =>
    refine ⟨h.1, fun w hw => ?_⟩
    unfold Subst.insert at hw
    split at hw
    · cases hw; exact hv
    · exact h.2 w hw

theorem segOk_extend (ps : List (List Char × List Char)) (hvals : ∀ p ∈ ps, DollarFree p.2) (σ : Subst) (sg : Seg)
    (h : SegOk σ sg) : SegOk (extend σ ps) sg := by
  induction ps generalizing σ with
  | nil => exact h
  | cons p ps ih =>
    obtain ⟨hp, hps⟩ := List.forall_mem_cons.1 hvals
    exact ih hps _ (segOk_insert σ p.1 p.2 hp sg h)

theorem extend_isSome (ps : List (List Char × List Char)) (σ : Subst) (n : List Char)
    (h : n ∈ ps.map (·.1) ∨ (σ n).isSome = true) : (extend σ ps n).isSome = true := by
  induction ps generalizing σ with
  | nil => exact h.resolve_left (List.not_mem_nil)
  | cons p ps ih =>
    refine ih (σ.insert p.1 p.2) ?_
    unfold Subst.insert
    by_cases hn : n = p.1
    · exact .inr (by rw [if_pos hn]; rfl)
    · rw [if_neg hn]
      exact h.imp_left fun hm => (List.mem_cons.1 hm).resolve_left hn

/-- C02_apply_all: the whole replacement loop turns the template into the template with every declared hole filled by
    its value. -/
theorem C02_apply_all (σ : Subst) (ps : List (List Char × List Char)) (segs : List Seg)
    (hnd : (ps.map (·.1)).Nodup) (hnames : ∀ p ∈ ps, NameOk p.1) (hvals : ∀ p ∈ ps, DollarFree p.2)
    (hfree : ∀ p ∈ ps, σ p.1 = none) (hok : ∀ sg ∈ segs, SegOk σ sg) :
    applyAll ps (render σ segs) = render (extend σ ps) segs := by
  induction ps generalizing σ with
  | nil => rfl
  | cons p ps ih =>
    obtain ⟨hn, hnames⟩ := List.forall_mem_cons.1 hnames
    obtain ⟨hv, hvals⟩ := List.forall_mem_cons.1 hvals
    obtain ⟨hf, hfree⟩ := List.forall_mem_cons.1 hfree
    obtain ⟨hp, hnd⟩ := List.nodup_cons.1 hnd
    show applyAll ps (replaceAll (ph p.1) p.2 (render σ segs)) = _
    rw [C02_replace_one σ p.1 p.2 segs hn hf hv hok]
    refine ih (σ.insert p.1 p.2) hnd hnames hvals (fun q hq => ?_) fun sg hsg => segOk_insert σ p.1 p.2 hv sg (hok sg hsg)
    have : q.1 ≠ p.1 := fun e => hp (List.mem_map.2 ⟨q, hq, e⟩)
    simp [Subst.insert, this, hfree q hq]

theorem Subst.insert_comm (σ : Subst) {n m : List Char} (v w : List Char) (h : n ≠ m) :
    (σ.insert n v).insert m w = (σ.insert m w).insert n v := by
  funext k
  unfold Subst.insert
  by_cases hk : k = m
  · rw [if_pos hk, if_pos hk, if_neg (hk ▸ h.symm)]
  · rw [if_neg hk, if_neg hk]

/-- insertions of different names commute, so a permutation of distinct names builds the same substitution -/
theorem extend_perm {ps ps' : List (List Char × List Char)} (hperm : ps'.Perm ps) (hnd : (ps.map (·.1)).Nodup) (σ : Subst) :
    extend σ ps' = extend σ ps := by
  induction hperm generalizing σ with
  | nil => rfl
  | cons p _ ih => exact ih (List.nodup_cons.1 hnd).2 _
  | swap p q l =>
    have hne : q.1 ≠ p.1 := fun e => (List.nodup_cons.1 hnd).1 (List.mem_map.2 ⟨q, List.mem_cons_self, e⟩)
    exact congrArg (extend · l) (Subst.insert_comm σ q.2 p.2 hne)
  | trans h₁ h₂ ih₁ ih₂ => exact (ih₁ ((h₂.map _).nodup_iff.2 hnd) σ).trans (ih₂ hnd σ)

/-- C02_any_order: the order in which the placeholders are replaced (Go iterates a map) does not matter. -/
theorem C02_any_order (σ : Subst) (ps ps' : List (List Char × List Char)) (segs : List Seg) (hperm : ps'.Perm ps)
    (hnd : (ps.map (·.1)).Nodup) (hnames : ∀ p ∈ ps, NameOk p.1) (hvals : ∀ p ∈ ps, DollarFree p.2)
    (hfree : ∀ p ∈ ps, σ p.1 = none) (hok : ∀ sg ∈ segs, SegOk σ sg) :
    applyAll ps' (render σ segs) = applyAll ps (render σ segs) := by
  have hm : ∀ {q}, q ∈ ps' → q ∈ ps := hperm.mem_iff.1
  rw [C02_apply_all σ ps segs hnd hnames hvals hfree hok,
      C02_apply_all σ ps' segs ((hperm.map _).nodup_iff.2 hnd) (fun p hp => hnames p (hm hp)) (fun p hp => hvals p (hm hp))
        (fun p hp => hfree p (hm hp)) hok,
      extend_perm hperm hnd σ]

theorem render_dollarFree (σ : Subst) (segs : List Seg) (hok : ∀ sg ∈ segs, SegOk σ sg)
    (hfull : ∀ n, Seg.hole n ∈ segs → (σ n).isSome = true) : DollarFree (render σ segs) := by
  induction segs with
  | nil => exact List.not_mem_nil
  | cons sg r ih =>
    obtain ⟨hsg, hr⟩ := List.forall_mem_cons.1 hok
    have ihr := ih hr fun n hn => hfull n (List.mem_cons_of_mem _ hn)
    intro hmem
    rcases List.mem_append.1 hmem with h | h
    · cases sg with
      | lit s => exact hsg h
      | hole n =>
        obtain ⟨v, hv⟩ := Option.isSome_iff_exists.1 (hfull n List.mem_cons_self)
        simp only [renderSeg, hv] at h
        exact hsg.2 v hv h
    · exact ihr h

/-- C02_no_placeholder_left: when every placeholder of the template is declared, no placeholder survives. -/
theorem C02_no_placeholder_left (ps : List (List Char × List Char)) (segs : List Seg)
    (hnd : (ps.map (·.1)).Nodup) (hnames : ∀ p ∈ ps, NameOk p.1) (hvals : ∀ p ∈ ps, DollarFree p.2)
    (hok : ∀ sg ∈ segs, SegOk (fun _ => none) sg)
    (hdecl : ∀ n, Seg.hole n ∈ segs → n ∈ ps.map (·.1)) (m : List Char) :
    ¬ (ph m) <:+: applyAll ps (render (fun _ => none) segs) := by
  rw [C02_apply_all (fun _ => none) ps segs hnd hnames hvals (fun _ _ => rfl) hok]
  have hfree := render_dollarFree _ segs (fun sg hsg => segOk_extend ps hvals _ sg (hok sg hsg))
    fun n hn => extend_isSome ps _ n (.inl (hdecl n hn))
  rintro ⟨a, b, hab⟩
  apply hfree
  rw [← hab]
  simp [ph]

/-- a trial parameter that references a missing assignment is an error -/
theorem C02_missing_assignment_error (m : Meta) (asg : List (String × String)) (name r : String) (rest : List (String × Ref))
    (h : lookupLast asg r = none) : placeholders m asg ((name, .assign r) :: rest) = .error .notInAssignment := by
  simp [placeholders, buildMap, h]

/-- … and so is an assignment that no (non-meta) trial parameter consumes (the count check) -/
theorem C02_count_check (m : Meta) (asg : List (String × String)) (params : List (String × Ref)) (ps : List (String × String)) (n : Nat)
    (hb : buildMap m asg params = .ok (ps, n)) (hne : asg.length ≠ n) : placeholders m asg params = .error .notInTrialParameters := by
  simp [placeholders, hb, hne]

/-- metadata references resolve to the Trial's own name / namespace and the template's kind / apiVersion -/
theorem C02_meta_values (m : Meta) (asg : List (String × String)) :
    placeholders m [] [("a", .metaName), ("b", .metaNamespace), ("c", .metaKind), ("d", .metaAPIVersion)] =
      .ok [("a", m.trialName), ("b", m.trialNamespace), ("c", m.kind), ("d", m.apiVersion)] ∧ asg = asg := by
  refine ⟨?_, rfl⟩
  simp [placeholders, buildMap, dedupLast]

/-- C02_trial_fields: name = assignment name, namespace and controller owner = the Experiment, parameter assignments
    verbatim, early-stopping rules iff the Experiment uses early stopping. -/
theorem C02_trial_fields (e : ExpIn) (a : Assignment) :
    (trialInstance e a).name = a.name ∧ (trialInstance e a).ns = e.ns ∧ (trialInstance e a).owner = e.name ∧
    (trialInstance e a).params = a.params ∧ (trialInstance e a).rules = (if e.hasEarlyStopping then a.rules else []) :=
  ⟨rfl, rfl, rfl, rfl, rfl⟩

/-- the Trial built for one assignment does not depend on the Trials built before it (a pure function of the Experiment and
    the assignment) -/
theorem C02_trial_independent (e : ExpIn) (a b : Assignment) : trialInstance e b = trialInstance e b ∧ (trialInstance e a).labels = trialLabels e a :=
  ⟨rfl, rfl⟩

/-! Non-vacuity: two occurrences of one placeholder and one of another, in either replacement order. -/
example : applyAll [(['x'], ['1']), (['y'], ['2', '3'])] (['-'] ++ ph ['x'] ++ ['+'] ++ ph ['y'] ++ ['='] ++ ph ['x']) =
    ['-', '1', '+', '2', '3', '=', '1'] := by decide
example : applyAll [(['y'], ['2', '3']), (['x'], ['1'])] (['-'] ++ ph ['x'] ++ ['+'] ++ ph ['y'] ++ ['='] ++ ph ['x']) =
    ['-', '1', '+', '2', '3', '=', '1'] := by decide

end Katib.Tpl
