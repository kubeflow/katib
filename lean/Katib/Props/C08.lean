import Katib.Lemmas.SugPlan
/-!
# C08 — Suggestions are append-only, exactly counted and synced atomically

Statements about every Suggestion status write on every path of `Katib.Ctl.sugPlan` (any view, fault mask, abort
point, algorithm reply).
-/
namespace Katib.Ctl
open Katib

/-- a status write either leaves the assignments alone or appends exactly `requests - suggestionCount` fresh names
    taken from one algorithm reply, with `suggestionCount` = list length -/
def SyncGuard (v : World) (s : SugO) : Call → Prop
  | .sugStatus _ _ st' =>
    (st'.names = s.st.names ∧ st'.count = s.st.count) ∨
    (∃ n : Nat, st'.names = s.st.names ++ freshNames s.key.name v.algoN n ∧ (n : Int) = s.requests - s.st.count ∧
       0 < n ∧ st'.count = (st'.names.length : Nat))
  | _ => True

def KeepGuard (s : SugO) : Call → Prop
  | .sugStatus _ _ st' => st'.names = s.st.names ∧ st'.count = s.st.count
  | _ => True

/-- C08_sync_guard: every Suggestion status write of a reconcile keeps the assignments or appends exactly
    `requests − suggestionCount` new ones from a single reply (so the list only grows, by appending). -/
theorem C08_sync_guard (v : World) (k : Key2) (env : SugEnv) (now : Nat) (s : SugO) (hs : findSug v k = some s) :
    (sugPlan v k env now).All (SyncGuard v s) :=
  (sugPlan_spec env now hs).mono fun c hc => by
    cases hc with
    | status hw _ =>
      cases hw with
      | appended _ hpos _ hsize => exact Or.inr ⟨_, rfl, hsize, by omega, rfl⟩
      | _ => exact Or.inl ⟨rfl, rfl⟩
    | _ => trivial

/-- once a call of the kind `isC` has failed, every later call of the reconcile satisfies `P` (in `C08_atomic`: after a failed
    algorithm RPC, `GetSuggestions` or `GetEarlyStoppingRules`, no later write touches the assignments) -/
def Prog.AfterFail (isC : Call → Bool) (P : Call → Prop) : Prog → Prop
  | .done _ => True
  | .step c ok fail => (if isC c then fail.All P else fail.AfterFail isC P) ∧ ok.AfterFail isC P

def isAlgoRpc : Call → Bool
  | .rpcGetSuggestions _ _ _ _ _ _ => true
  | .rpcGetRules _ _ => true
  | _ => false

theorem Prog.AfterFail.of_all {isC : Call → Bool} {P : Call → Prop} : ∀ {p : Prog}, p.All P → p.AfterFail isC P
  | .done _, _ => trivial
  | .step c _ _, ⟨_, h2, h3⟩ => by
    refine ⟨?_, Prog.AfterFail.of_all h2⟩
    split
    · exact h3
    · exact Prog.AfterFail.of_all h3

theorem Prog.AfterFail.step {isC : Call → Bool} {P : Call → Prop} {c : Call} {ok fail : Prog} (hf : fail.All P)
    (ho : ok.AfterFail isC P) : (Prog.step c ok fail).AfterFail isC P := by
  refine ⟨?_, ho⟩
  split
  · exact hf
  · exact .of_all hf

/-- the error path persists conditions only -/
theorem all_sugErr_keep (s : SugO) (st : SugSt) : (sugErr s st).All (KeepGuard s) :=
  all_sugErr.2 fun _ => ⟨rfl, rfl⟩

/-- C08_atomic: on any RPC error the assignments are left unchanged (only conditions may be persisted). -/
theorem C08_atomic (v : World) (s : SugO) (st : SugSt) (ts : List TrialO) (env : SugEnv) :
    (sugSync v s st ts env).AfterFail isAlgoRpc (KeepGuard s) := by
  have errK := all_sugErr_keep s st
  have fin : ∀ st', (sugFinish s st').AfterFail isAlgoRpc (KeepGuard s) := by
    intro st'
    unfold sugFinish
    split
    · trivial
    · exact .step trivial trivial
  unfold sugSync
  simp only []
  split
  · exact fin _
  · split
    · exact .step errK (.of_all errK)
    · refine .step errK ?_
      unfold sugAfterReply
      split
      · exact .of_all errK
      · split
        · exact .step errK (fin _)
        · exact fin _

/-- a reply of the wrong size appends nothing: whatever the service answers, every later write keeps the assignments -/
theorem C08_wrong_size (v : World) (s : SugO) (st : SugSt) (env : SugEnv) (k : Nat) (cur : Int) (h : (k : Int) ≠ cur) :
    (sugAfterReply v s st env k cur).All (KeepGuard s) := by
  unfold sugAfterReply
  rw [if_pos h]
  exact all_sugErr_keep s st

/-! Non-vacuity: requests 2, count 0, deployment ready, running suggestion ⇒ the sync appends two fresh names. -/
example :
    let s : SugO := { key := ⟨"ns", "e"⟩, requests := 2, resume := .longRunning, es := false,
                      st := { conds := [⟨.created, true, rSugCreated, 0⟩, ⟨.running, true, rSugRunning, 1⟩] } }
    (sugSync { algoN := 4 } s s.st [] {}).calls.any (fun c => match c with
      | .sugStatus _ _ st => st.names == ["e-t5", "e-t6"] && st.count == 2 | _ => false) = true := by decide

end Katib.Ctl
