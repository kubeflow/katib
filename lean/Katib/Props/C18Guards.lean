import Katib.Gen.Guards
import Katib.Model.Goptuna
/-!
# C18: one iteration of the model of `syncTrials` decides under the source's path conditions

`Katib/Gen/Guards.lean` (regenerated on every run by `kvh extract guards`, loop entered) holds the conditions under which one
iteration of the loop in `SuggestionService.syncTrials` (pkg/suggestion/v1beta1/goptuna/service.go) looks the Trial up by its
parameters, records the mapping, sets the Goptuna trial's value and state, and returns an error.  The in-memory storage of the
model fails only by not having the trial (`GetTrial`); `SetTrialValue` / `SetTrialState` on a trial that was just read do not
fail (their `err != nil` atoms are false), and the value itself is not modelled.
-/
namespace Katib.Gen
open Katib.Gop

theorem C18_sync_guards_known :
    mapByParamGuardUnknown = [] ∧ recordMappingGuardUnknown = [] ∧ setTrialValueGuardUnknown = [] ∧ setTrialStateGuardUnknown = [] ∧
    errFindGuardUnknown = [] ∧ syncErrorGuardUnknown = [] ∧ mapByParamGuardSites = 1 ∧ recordMappingGuardSites = 1 ∧
    setTrialValueGuardSites = 1 ∧ setTrialStateGuardSites = 1 ∧ errFindGuardSites = 1 ∧ syncErrorGuardSites = 4 := by decide

abbrev GsG := Bool → Bool → Bool → Bool → Bool → Bool → Bool → Bool → Bool → Bool

/-- the Goptuna trial id the iteration works on: the mapped one, else the one found by parameters -/
def syncId (s : Svc) (k : KTrial) : Option Nat :=
  match mapOf s.mapping k.name with
  | some id => some id
  | none => findId s k.params

/-- the atoms of one iteration; `d` stands for tests that are not reached -/
def gsG (s : Svc) (k : KTrial) (d : Bool) (g : GsG) : Bool :=
  let found := (mapOf s.mapping k.name).isSome
  let failed1 := if found then d else (findId s k.params).isNone
  match (syncId s k).bind (getTrial s.trials) with
  | none => g found failed1 true false false d d d false
  | some t => g found failed1 false false false t.state.finished (decide (toG k.state = t.state))
      (decide (toG k.state = .complete)) false

/-- the iteration written with the generated guards -/
def syncGen (s : Svc) (k : KTrial) (d : Bool) : Except Err Svc :=
  let G := gsG s k d
  if G syncErrorGuard then (if G errFindGuard then .error .notFound else .error .storage)
  else
    let id := (syncId s k).getD 0
    .ok { mapping := if G recordMappingGuard then (k.name, id) :: s.mapping else s.mapping,
          trials := if G setTrialStateGuard then setState s.trials id (toG k.state) else s.trials }

theorem C18_iteration_is_source (s : Svc) (k : KTrial) (d : Bool) : syncOne s k = syncGen s k d := by
  unfold syncOne syncGen gsG syncId syncErrorGuard errFindGuard recordMappingGuard setTrialStateGuard
  cases mapOf s.mapping k.name with
  | some id =>
    cases hg : getTrial s.trials id with
    | none => simp [hg]
    | some g => cases hf : g.state.finished <;> by_cases he : toG k.state = g.state <;> simp [hg, hf, he]
  | none =>
    cases findId s k.params with
    | none => simp
    | some id =>
      cases hg : getTrial s.trials id with
      | none => simp [hg]
      | some g => cases hf : g.state.finished <;> by_cases he : toG k.state = g.state <;> simp [hg, hf, he]

/-- the lookup by parameters is made exactly for a Trial name the mapping does not hold; the value is set only together with a
    state change, for a succeeded Trial -/
theorem C18_lookup_and_value_guards (s : Svc) (k : KTrial) (d : Bool) :
    gsG s k d mapByParamGuard = (mapOf s.mapping k.name).isNone ∧
    (gsG s k d setTrialValueGuard = true → gsG s k d setTrialStateGuard = true ∧ toG k.state = .complete) := by
  unfold gsG mapByParamGuard setTrialValueGuard setTrialStateGuard
  -- the two calls lie on one path; `SetTrialValue` has the test `complete` besides, under which the last test of `SetTrialState`
  -- holds; after a failed `GetTrial` neither is reached
  cases (syncId s k).bind (getTrial s.trials) with
  | none => simp
  | some t => simp

/-- the loop of `syncTrials` written with the generated guards: the first error ends it, each later Trial sees what the
    earlier ones left -/
def syncAllGen (d : Bool) (s : Svc) : List KTrial → Except Err Svc
  | [] => .ok s
  | k :: r => match syncGen s k d with
    | .error e => .error e
    | .ok s1 => syncAllGen d s1 r

/-- **C18_loop_is_source**: for every request (any number of Trials, in any states, mapped or not) and every state of the
    service, the model's loop is the iteration of the step that decides under the regenerated path conditions -/
theorem C18_loop_is_source (d : Bool) (s : Svc) (ks : List KTrial) : syncAll s ks = syncAllGen d s ks := by
  induction ks generalizing s with
  | nil => rfl
  | cons k r ih =>
    simp only [syncAll, syncAllGen, C18_iteration_is_source s k d]
    cases syncGen s k d with
    | error e => rfl
    | ok s1 => exact ih s1

/-- **C18_request_is_source**: `GetSuggestions` after the study exists — conversion, the loop of generated steps, sampling -/
theorem C18_request_is_source (d : Bool) (s : Svc) (ks : List KTrial) (sampled : List Params) :
    request s ks sampled =
      if ks.any (fun k => !k.convertible) then .error .convert
      else match syncAllGen d s ks with
        | .error e => .error e
        | .ok s1 => .ok (sample s1 sampled) := by
  unfold request; rw [C18_loop_is_source d s ks]
  split
  · rfl
  · cases syncAllGen d s ks <;> rfl

end Katib.Gen
