import Katib.Gen.Guards
import Katib.Model.Reconcile
/-!
# The model's suggestion reconcile (`SyncAssignments`, `ReconcileSuggestion`, the controller's `Reconcile`) is the source's,
# rebuilt from regenerated path conditions

`Katib/Gen/Guards.lean` (regenerated on every run by `kvh extract guards`) holds the conditions under which `SyncAssignments`
(suggestionclient.go) reaches the `GetSuggestions` call, the `GetEarlyStoppingRules` call and the statement that appends the
new assignments; `err != nil` after the four calls that can fail are numbered atoms.  `sugSyncGen` puts the model's RPC
steps and its one appending status behind exactly these conditions (the failure of an RPC is the failure branch of its step).
-/
namespace Katib.Gen
open Katib Katib.Ctl

def sugSyncGen (v : World) (s : SugO) (st : SugSt) (ts : List TrialO) (env : SugEnv) : Prog :=
  let cur := s.requests - st.count
  let k := replyCount env cur
  let G (wrongSize : Bool) (g : Bool → Bool → Bool → Bool → Bool → Bool → Bool → Bool → Bool → Bool) : Bool :=
    g (decide (cur ≤ 0)) false false wrongSize s.es false false false false
  let append : Prog := if G (decide ((k : Int) ≠ cur)) appendAssignmentsGuard then sugFinish s (sugAppend v s st k) else sugErr s st
  if !G false callGetSuggestionsGuard then sugFinish s st
  else if env.algoMode = 3 then
    .step (.rpcGetSuggestions s.key.name cur s.requests (sentTrials ts) 0 false) (sugErr s st) (sugErr s st)
  else
    .step (.rpcGetSuggestions s.key.name cur s.requests (sentTrials ts) k true)
      (if G (decide ((k : Int) ≠ cur)) callGetRulesGuard then .step (.rpcGetRules s.key.name (env.esMode = 0)) append (sugErr s st)
       else append)
      (sugErr s st)

theorem C08_sync_guards_known :
    callGetSuggestionsGuardUnknown = [] ∧ callGetRulesGuardUnknown = [] ∧ appendAssignmentsGuardUnknown = [] ∧
    callGetSuggestionsGuardSites = 1 ∧ callGetRulesGuardSites = 1 ∧ appendAssignmentsGuardSites = 1 := by decide

theorem C08_sync_is_source (v : World) (s : SugO) (st : SugSt) (ts : List TrialO) (env : SugEnv) :
    sugSync v s st ts env = sugSyncGen v s st ts env := by
  unfold sugSync sugSyncGen sugAfterReply callGetSuggestionsGuard callGetRulesGuard appendAssignmentsGuard
  by_cases h1 : s.requests - st.count ≤ 0
  · simp [h1]
  · by_cases h3 : ((replyCount env (s.requests - st.count) : Nat) : Int) ≠ s.requests - st.count
    · simp [h1, h3]
    · cases s.es <;> simp [h1, h3]

/-! ## `ReconcileSuggestion`: volume, RBAC, readiness, validation, sync -/

/-- the generated guards at a reconcile in which no call fails -/
def rsG (fromVolume esSet generatedAccount deployReady running : Bool)
    (g : Bool → Bool → Bool → Bool → Bool → Bool → Bool → Bool → Bool → Bool → Bool → Bool → Bool → Bool → Bool → Bool → Bool → Bool → Bool → Bool → Bool) : Bool :=
  g fromVolume esSet generatedAccount deployReady running false false false false false false false false false false false false false false false

def sugTailGen (v : World) (s : SugO) (st1 : SugSt) (env : SugEnv) (now : Nat) : Prog :=
  match findExp v s.key with
  | none => sugErr s st1
  | some _ =>
    let ts := trialsOf v s.key
    let G := rsG (s.resume == .fromVolume) s.es true true (Cond.has st1.conds .running)
    let running : SugSt := if G markSugRunningGuard then { st1 with conds := sugMarkRunning st1.conds true rSugRunning now } else st1
    let failed := sugFinish s { st1 with conds := sugMarkFailed st1.conds rSugFailed now }
    let sync : Prog := if G callSyncGuard then sugSync v s running ts env else sugFinish s running
    let afterValidate : Prog := if G callValidateESGuard then .step .rpcValidateES sync failed else sync
    if G callValidateGuard then .step (.rpcValidate s.key.name) afterValidate failed else afterValidate

theorem C16_reconcile_suggestion_guards_known :
    callReconcileVolumeGuardUnknown = [] ∧ callReconcileRBACGuardUnknown = [] ∧ markDeployNotReadyGuardUnknown = [] ∧
    callValidateGuardUnknown = [] ∧ callValidateESGuardUnknown = [] ∧ markSugRunningGuardUnknown = [] ∧ callSyncGuardUnknown = [] ∧
    callReconcileVolumeGuardSites = 1 ∧ callReconcileRBACGuardSites = 1 ∧ markDeployNotReadyGuardSites = 1 ∧
    callValidateGuardSites = 1 ∧ callValidateESGuardSites = 1 ∧ markSugRunningGuardSites = 1 ∧ callSyncGuardSites = 1 := by decide

/-- **C16_reconcile_suggestion_is_source**: once the Deployment is ready — validation only for a Suggestion that is not Running,
    the early-stopping validation only with early stopping, Running marked after both, then the sync -/
theorem C16_reconcile_suggestion_is_source (v : World) (s : SugO) (st1 : SugSt) (env : SugEnv) (now : Nat) :
    sugTail v s st1 env now = sugTailGen v s st1 env now := by
  unfold sugTail sugTailGen rsG callValidateGuard callValidateESGuard markSugRunningGuard callSyncGuard
  cases hfe : findExp v s.key with
  | none => rfl
  | some e =>
    cases Cond.has st1.conds .running
    · cases s.es <;> simp
    · simp

/-- the volume is reconciled exactly under FromVolume, the RBAC objects exactly with early stopping (and the generated account),
    and a Deployment that is not ready ends the reconcile with DeploymentReady = False — the tests of the model's
    `sugReconcile` / `sugRbac` / `sugDeploy` -/
theorem C17_volume_rbac_readiness_guards_are_source (fv es ga dr rn : Bool) :
    rsG fv es ga dr rn callReconcileVolumeGuard = fv ∧
    rsG fv es ga dr rn callReconcileRBACGuard = (es && ga) ∧
    rsG fv es ga dr rn markDeployNotReadyGuard = !dr := by
  -- no call fails: the tests `!failedN` drop out, and with them the pairs `x && … || !x` around the calls made only under `x`
  simp only [rsG, callReconcileVolumeGuard, callReconcileRBACGuard, markDeployNotReadyGuard, Bool.not_false, Bool.and_true,
    Bool.true_and, Bool.or_not_self, and_self]

/-! ## the suggestion controller's `Reconcile` -/

def sugPlanGen (v : World) (k : Key2) (env : SugEnv) (now : Nat) : Prog :=
  match findSug v k with
  | none => .done .ok
  | some s =>
    let dk := infraKey k
    let G (g : Bool → Bool → Bool → Bool → Bool → Bool → Bool → Bool → Bool → Bool) : Bool :=
      g false false false false false (sHas s .succeeded) (sHas s .created) false false
    -- `deleteDeployment` / `deleteService` issue the delete only for an object that exists
    let delSvc : Prog :=
      if G callDeleteServiceGuard && v.svcs.contains dk then .step (.svcDelete dk) (.done .ok) (.done .err) else .done .ok
    if G callDeleteDeploymentGuard then
      if (findDeploy v dk).isSome then .step (.deployDelete dk) delSvc (.done .err) else delSvc
    else if G markSugCreatedGuard then
      sugFinish s { s.st with started := true, conds := Cond.set s.st.conds .created true rSugCreated now }
    else if G callReconcileSuggestionGuard then sugReconcile v s env now
    else .done .ok

theorem C16_suggestion_reconcile_guards_known :
    callDeleteDeploymentGuardUnknown = [] ∧ callDeleteServiceGuardUnknown = [] ∧ markSugCreatedGuardUnknown = [] ∧
    callReconcileSuggestionGuardUnknown = [] ∧ callDeleteDeploymentGuardSites = 1 ∧ callDeleteServiceGuardSites = 1 ∧
    markSugCreatedGuardSites = 1 ∧ callReconcileSuggestionGuardSites = 1 := by decide

/-- **C16_suggestion_controller_is_source**: a Succeeded Suggestion only loses its Deployment and Service; otherwise Created is
    marked first and `ReconcileSuggestion` runs for a Created one -/
theorem C16_suggestion_controller_is_source (v : World) (k : Key2) (env : SugEnv) (now : Nat) :
    sugPlan v k env now = sugPlanGen v k env now := by
  unfold sugPlan sugPlanGen
  cases findSug v k with
  | none => rfl
  | some s =>
    dsimp only
    cases sHas s .succeeded
    · cases sHas s .created <;> rfl
    · rfl

end Katib.Gen
