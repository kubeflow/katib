import Katib.Lemmas.BudgetPlans
import Katib.Props.C06World
/-!
# C01 (parallel part) over whole schedules

`C01_parallel`: for every list of simulator operations (arbitrarily lagging reads, fault masks, abort points, environment events)
in which nobody deletes Trials, an experiment whose budget fields nobody edits never has more than `parallelTrialCount` trials that
are not completed: `#trials ≤ #assignments ≤ #completed trials + parallelTrialCount` at every moment.  The proof uses that
completion is permanent (`TPast`), so a stale view can only under-count completed trials.
-/
namespace Katib.Ctl
open Katib Katib.Exp

/-! ### counting completed trials of an experiment -/

def mine (k : Key2) (t : TrialO) : Bool := decide (t.key.ns = k.ns ∧ t.exp = k.name)

def doneOf (k : Key2) (w : World) : List TrialO := w.trials.filter (fun t => mine k t && tCompleted t)

def doneCount (k : Key2) (w : World) : Int := ((doneOf k w).length : Nat)

/-- completion is permanent and trials never disappear: a later store has at least as many completed trials -/
theorem doneCount_mono {k : Key2} {h c : World} (hKh : KInv h) (hKc : KInv c) (hP : TPast h c) : doneCount k h ≤ doneCount k c := by
  unfold doneCount
  have hnd : ((doneOf k h).map (·.key)).Nodup := (List.Sublist.map _ List.filter_sublist).nodup hKh
  have hsub : (doneOf k h).map (·.key) ⊆ (doneOf k c).map (·.key) := by
    intro key hkey
    obtain ⟨th, hth, e⟩ := List.mem_map.1 hkey
    obtain ⟨hmem, hp⟩ := List.mem_filter.1 hth
    simp only [Bool.and_eq_true] at hp
    obtain ⟨tc, htc, _, _, hexp, hmono⟩ := hP th.key th (findTrial_of_mem hKh hmem)
    have hck : tc.key = th.key := findTrial_key htc
    refine List.mem_map.2 ⟨tc, List.mem_filter.2 ⟨findTrial_mem htc, ?_⟩, by rw [hck, e]⟩
    simp only [Bool.and_eq_true]
    refine ⟨?_, tCompleted_mono hmono hp.2⟩
    unfold mine at hp ⊢
    simp only [decide_eq_true_eq] at hp ⊢
    rw [hck, ← hexp]; exact hp.1
  have := List.Nodup.length_le_of_subset hnd hsub
  simp only [List.length_map] at this
  omega

theorem doneCount_nonneg (k : Key2) (w : World) : 0 ≤ doneCount k w := by unfold doneCount; exact Int.natCast_nonneg _

theorem doneCount_congr {k : Key2} {w w' : World} (e : w'.trials = w.trials) : doneCount k w' = doneCount k w := by
  unfold doneCount doneOf; rw [e]

/-! ### the classification counters under-count completed trials -/

theorem completedCount_le (e : ExpO) (st : ExpSt) (ts : List TrialO) (now : Nat) :
    completedCount (expUpdateStatus e st ts now) ≤ ((ts.filter tCompleted).length : Nat) := by
  -- every trial counted in one of the five classes is completed
  rw [(counts_update e st ts now).1, ← List.countP_eq_length_filter, ← List.countP_eq_length_filter]
  exact Int.ofNat_le.2 (List.countP_mono_left fun _ _ => tCompleted_of_done)

/-! ### the request bound: `requests ≤ completed trials seen + parallelTrialCount` -/

/-- `ReconcileSuggestions` never asks for more than the completed Trials it sees plus `parallelTrialCount` -/
theorem expWanted_le_par {v : World} {e : ExpO} {now : Nat} {st : ExpSt} (h : ExpAdds v e now st) :
    expWanted v e (expRefresh v e st now) ≤ (((trialsOf v e.key).filter tCompleted).length : Nat) + e.par := by
  have hadd : addCount e (expRefresh v e st now) ≤ e.par - activeCount (expRefresh v e st now) := by
    have := addCount_le_par e (expRefresh v e st now)
    have := h.pos
    omega
  have hies : (0 : Int) ≤ (((trialsOf v e.key).filter (fun t => !obsAvailable t.st && tHas t .earlyStopped)).length : Int) :=
    Int.natCast_nonneg _
  have key : ((trialsOf v e.key).length : Int) + addCount e (expRefresh v e st now) ≤
      (((trialsOf v e.key).filter tCompleted).length : Nat) + e.par := by
    rcases expRefresh_cases v e st now with ⟨h0, hr⟩ | ⟨_, hr⟩ <;> rw [hr] at hadd ⊢
    · have ha := active_nonneg st
      rw [h0]
      simp only [List.length_nil, List.filter_nil, Int.natCast_zero, Int.zero_add]
      omega
    · have ht := counts_total e st (trialsOf v e.key) now
      have hc := completedCount_le e st (trialsOf v e.key) now
      omega
  unfold expWanted
  omega

theorem view_done_eq (k : Key2) (v hT : World) (htr : v.trials = hT.trials) :
    ((((trialsOf v k).filter tCompleted).length : Nat) : Int) = doneCount k hT := by
  unfold doneCount doneOf trialsOf
  rw [htr]
  rw [((sortByName_perm _).filter tCompleted).length_eq, List.filter_filter]
  congr 2
  apply List.filter_congr
  intro t _
  simp only [mine, Bool.and_comm]

theorem expPlan_vjust_par {k : Key2} {p : Int} (v hS hT : World) (k' : Key2) (now : Nat)
    (hsugs : v.sugs = hS.sugs) (htr : v.trials = hT.trials) (hexp : ∀ e, findExp v k = some e → e.par = p) :
    (expPlan v k' now).All (VJust k (doneCount k hT + p) hS) :=
  expPlan_vjust_of_le v hS k' now hsugs fun e _ he ha => by
    rw [← view_done_eq k v hT htr, ← hexp e he, ← findExp_key he]
    exact expWanted_le_par ha

theorem Plan.vjust_par {k : Key2} {p : Int} {v hS hT : World} {now : Nat} {pr : Prog} (hp : Plan v now pr)
    (hsugs : v.sugs = hS.sugs) (htr : v.trials = hT.trials) (hexp : ∀ e, findExp v k = some e → e.par = p) :
    pr.All (VJust k (doneCount k hT + p) hS) := by
  cases hp with
  | exp k' => exact expPlan_vjust_par v hS hT k' now hsugs htr hexp
  | sug k' env => exact sugPlan_vjust v hS k' env now hsugs
  | trial k' => exact trialPlan_vjust v hS k' now

/-- the bound that holds in the store `w`: completed trials plus `parallelTrialCount` -/
def parBound (k : Key2) (p : Int) (w : World) : Int := doneCount k w + p

def PI (k : Key2) (p : Int) (w : World) : Prop :=
  WInv k (parBound k p w) w ∧ TInv w ∧ KInv w

theorem parBound_nonneg {k : Key2} {p : Int} (hp0 : 0 ≤ p) (w : World) : 0 ≤ parBound k p w := by
  unfold parBound; have := doneCount_nonneg k w; omega

theorem parBound_mono {k : Key2} {p : Int} {h c : World} (hKh : KInv h) (hKc : KInv c) (hP : TPast h c) :
    parBound k p h ≤ parBound k p c := by
  unfold parBound; have := doneCount_mono (k := k) hKh hKc hP; omega

/-- `hS`: the store the Suggestion was read from; `hT`: the store the Trials were read from -/
theorem exec_par {k : Key2} {p : Int} (hp0 : 0 ≤ p) {hS hT w0 : World} (f : Faults) (pr : Prog)
    (hpr : pr.All (fun c => VJust k (parBound k p hT) hS c ∧ TJust hT c))
    (hI : PI k p w0) (hPS : Past k hS w0) (hKT : KInv hT) (hPT : TPast hT w0) :
    PI k p (exec f pr w0 0 []).w ∧ Past k w0 (exec f pr w0 0 []).w ∧ TPast w0 (exec f pr w0 0 []).w := by
  refine exec_rel (I := PI k p) (R := fun a b => Past k a b ∧ TPast a b) (fun w => ⟨Past.refl k w, TPast.refl w⟩)
    (fun h1 h2 => ⟨Past.trans h1.1 h2.1, TPast.trans h1.2 h2.2⟩) ?_ f hpr hI
  intro w c w' ⟨hW, hT, hK⟩ ⟨hP, hTP⟩ hc happ
  obtain ⟨t1, t2⟩ := apply_pres_trial hT (TPast.trans hPT hTP) hc.2 happ
  have hK' := apply_pres_keys hK happ
  obtain ⟨w1, w2⟩ := apply_pres (parBound_nonneg hp0 w) hW (Past.trans hPS hP)
    (VJust.mono (parBound_mono hKT hK (TPast.trans hPT hTP)) hc.1) happ
  exact ⟨⟨w1.mono (parBound_mono hK hK' t2), t1, hK'⟩, w2, t2⟩

/-- on top of `verdictSched`, for an experiment whose budget fields nobody edits: `WInv` with the bound that holds in each store -/
theorem parSched {k : Key2} {p : Int} (hp0 : 0 ≤ p) :
    Sched (fun op => (∀ k', op ≠ .userDelete k') ∧ ∀ n, op ≠ .editMax k n)
      (fun _ w => (TInv w ∧ KInv w) ∧ WInv k (parBound k p w) w ∧ ExpFields k (fun _ q => q = p) w) (fun a b => TPast a b ∧ Past k a b) :=
  verdictSched.extend (I' := fun _ w => WInv k (parBound k p w) w ∧ ExpFields k (fun _ q => q = p) w) And.left (Past.refl k)
    (fun h1 h2 => Past.trans h1.2 h2.2) (fun _ h => h)
    (plan := by
      intro s pr f vE vT vS vD hpr hI _
      obtain ⟨⟨hT, hK⟩, hW, hF⟩ := hI.cur
      obtain ⟨⟨⟨hTT, hKT⟩, _⟩, hPT, _⟩ := hI.snap vT
      have h := exec_par hp0 f pr
        ((hpr.vjust_par (hT := snapAt s vT) (assemble_sugs ..) (assemble_trials ..)
            (fun e he => (hI.snap vE).1.2.2 e (findExp_mem (findExp_assemble .. ▸ he)) (findExp_key he))).and
          (hpr.tjust (assemble_trials ..) hTT))
        ⟨hW, hT, hK⟩ (hI.snap vS).2.2 hKT hPT
      exact ⟨⟨h.1.1, exec_fields f pr hF⟩, h.2.1⟩)
    (env := by
      intro s op ⟨hdel, hop⟩ henv hI ⟨⟨_, t2⟩, t3⟩
      suffices h : WInv k (parBound k p (stepWorld s op).1) (stepWorld s op).1 ∧ Past k s.cur (stepWorld s op).1 from
        ⟨⟨h.1, stepWorld_fields hop hI.cur.2.2⟩, h.2⟩
      obtain ⟨⟨_, hK⟩, hW, _⟩ := hI.cur
      -- an environment event leaves Suggestions alone and keeps every Trial's key and Experiment
      suffices h : ∀ t' ∈ (stepWorld s op).1.trials, ∃ t ∈ s.cur.trials, t'.key = t.key ∧ t'.exp = t.exp by
        obtain ⟨a, b⟩ := hW.frame_trials (stepWorld_sugs henv) t2 h
        exact ⟨a.mono (parBound_mono hK t2 t3), b⟩
      rcases stepWorld_trials_cases henv with h | ⟨k', _, _, _, _, h⟩ | ⟨k', hc, _⟩
      · exact fun t' ht' => ⟨t', h ▸ ht', rfl, rfl⟩
      · rw [h]
        exact forall_updTrial (fun t h => ⟨t, h, rfl, rfl⟩) (fun t h _ => ⟨t, h, rfl, rfl⟩)
      · exact absurd hc (hdel k'))

/-- **C01_parallel**: over every schedule without Trial deletions and without an edit of the experiment's budget, the trials of an experiment that are not completed never exceed
    `parallelTrialCount` (and `#trials ≤ #assignments ≤ #completed + parallelTrialCount`). -/
theorem C01_parallel (k : Key2) (p : Int) (hp0 : 0 ≤ p) (es : List ExpInit) (ops : List Op)
    (hinit : ∀ e ∈ es, e.key = k → e.par = p) (hops : ∀ op ∈ ops, ∀ n, op ≠ .editMax k n)
    (hopd : ∀ op ∈ ops, ∀ k', op ≠ .userDelete k') :
    let s := run (Sim.init es) ops
    ((((trialsOf s.cur k).filter (fun t => !tCompleted t)).length : Nat) : Int) ≤ p ∧
    (∀ sg, findSug s.cur k = some sg → (sg.st.names.length : Int) ≤ doneCount k s.cur + p ∧ sg.requests ≤ doneCount k s.cur + p) := by
  intro s
  have hI : SInv _ _ s := (parSched hp0).run_init es (fun op h => ⟨hopd op h, hops op h⟩)
    ⟨verdict_init es, .init k _ es, init_exps hinit⟩
  have hW := hI.cur.2.1
  have htot := trialsOf_le (parBound_nonneg hp0 s.cur) hW
  have hdone := view_done_eq k s.cur s.cur rfl
  have hsplit := length_filter_split tCompleted (trialsOf s.cur k)
  refine ⟨?_, ?_⟩
  · unfold parBound at htot
    omega
  · intro sg hsg
    obtain ⟨a, b, _⟩ := hW.sug sg hsg
    exact ⟨a, b⟩

end Katib.Ctl
